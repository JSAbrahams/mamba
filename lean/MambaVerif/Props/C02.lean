/-
C02 — Every emitted file is syntactically valid Python 3 (separator discipline of the printer).

CPython's acceptance of the emitted text is decided by the check's oracle (`compile()` of every
emitted module); no Lean model replaces the Python compiler.  What is proved here is the mechanism
`generate/ast/mod.rs::comma_delimited` uses for every argument list, parameter list, collection
literal and import list: it appends `", "` after EVERY item, then removes the byte at `len - 2` and
trims the end.  Theorem: for every list of non-empty items that do not end in white space, the
result is exactly the items separated by `", "` — no trailing comma, no lost character.  The empty
item (`Core::Empty`) is the witness that the guard is needed.
-/
namespace MV.C02

open MV

def isWs (c : Char) : Bool := c = ' ' || c = '\n' || c = '\t' || c = '\r'

/-- `String::trim_end` -/
def trimEnd (s : List Char) : List Char := (s.reverse.dropWhile isWs).reverse

/-- `comma_delimited`: append `", "` after each item, remove the byte at `len - 2`, trim the end -/
def commaDelimited (items : List (List Char)) : List Char :=
  let s := items.flatMap (fun i => i ++ [',', ' '])
  let s := if s.length > 2 then s.eraseIdx (s.length - 2) else s
  trimEnd s

def GoodItem (i : List Char) : Prop := i ≠ [] ∧ ∀ c, i.getLast? = some c → isWs c = false

/-- trailing white space is dropped -/
theorem trimEnd_append_ws (a : List Char) {w : List Char} (hw : ∀ c ∈ w, isWs c = true) :
    trimEnd (a ++ w) = trimEnd a := by
  unfold trimEnd
  rw [List.reverse_append, List.dropWhile_append_of_pos (by simpa using hw)]

/-- text that does not end in white space is left alone -/
theorem trimEnd_eq_self (a : List Char) (h : ∀ c, a.getLast? = some c → isWs c = false) : trimEnd a = a := by
  rcases List.eq_nil_or_concat a with rfl | ⟨b, c, rfl⟩
  · rfl
  · have hc : isWs c = false := h c (by simp)
    simp [trimEnd, hc]

/-- a separated list, seen from its last item -/
theorem intercalate_concat {α} (sep : List α) (init : List (List α)) (last : List α) :
    List.intercalate sep (init ++ [last]) = init.flatMap (· ++ sep) ++ last := by
  induction init with
  | nil => simp
  | cons x xs ih => simp [List.intercalate_cons_of_ne_nil, ih]

/-- the mechanism: if the items, each followed by `", "`, make up `t ++ ", "`, the comma is erased and
    the blank trimmed, and `t` is what remains provided it is not empty and does not end in white space -/
theorem commaDelimited_eq {items : List (List Char)} {t : List Char}
    (hflat : items.flatMap (fun i => i ++ [',', ' ']) = t ++ [',', ' ']) (hne : t ≠ [])
    (hws : ∀ c, t.getLast? = some c → isWs c = false) : commaDelimited items = t := by
  have hlen : (t ++ [',', ' ']).length - 2 = t.length := by simp
  have hpos : (t ++ [',', ' ']).length > 2 := by
    have := List.length_pos_iff.mpr hne
    simp only [List.length_append, List.length_cons, List.length_nil]; omega
  unfold commaDelimited
  simp only [hflat, hpos, if_true, hlen]
  rw [List.eraseIdx_append_of_length_le (Nat.le_refl _), Nat.sub_self]
  exact (trimEnd_append_ws t (w := [' ']) (by simp [isWs])).trans (trimEnd_eq_self t hws)

/-- only the LAST item has to be good -/
theorem comma_delimited_concat (init : List (List Char)) (last : List Char) (hl : GoodItem last) :
    commaDelimited (init ++ [last]) = List.intercalate [',', ' '] (init ++ [last]) := by
  rw [intercalate_concat]
  refine commaDelimited_eq (by simp) (by simp [hl.1]) (fun c hc => hl.2 c ?_)
  rwa [List.getLast?_append, Option.or_of_isSome (by simpa using hl.1)] at hc

/-- **comma_delimited_spec** -/
theorem comma_delimited_spec (items : List (List Char)) (h : ∀ i ∈ items, GoodItem i) :
    commaDelimited items = List.intercalate [',', ' '] items := by
  rcases List.eq_nil_or_concat items with rfl | ⟨init, last, rfl⟩
  · rfl
  · rw [List.concat_eq_append] at h ⊢
    exact comma_delimited_concat init last (h last (by simp))

/-- an empty item breaks the discipline: `f(a, )`-like text (the guard is necessary) -/
theorem empty_item_witness :
    commaDelimited [['a'], []] ≠ List.intercalate [',', ' '] [['a'], []] := by decide +kernel

example : commaDelimited [['a'], ['b', 'c']] = ['a', ',', ' ', 'b', 'c'] := by decide +kernel

end MV.C02
