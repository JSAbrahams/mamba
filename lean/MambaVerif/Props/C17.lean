/-
C17 — The output's Python API mirrors the Mamba definitions (operator definitions).

`opMethodTable` is REGENERATED from the four places that together decide under which name an
operator definition (`def +(self, other) …`) is emitted: the parser's operator arms, `NodeOp`'s
`Display`, the string constants of `check/context/function/python.rs` and `CoreFunOp`
(`generate/ast/node.rs`).  `pythonDataModel` is the specification: the special method the Python
data model gives each operator.  Theorems: the emitted name is the data model's for every operator
that can be defined, distinct operators never share a method, and every emitted name is a dunder
name (except `sqrt`, which Python has no operator for).
Names, parameter order, defaults, variadic markers, constructors and inheritance lists of the
other definitions are decided by the signature oracle of the check (python `ast` of every emitted
module against the definitions of the generated program).
-/
import MambaVerif.Generated.OpTables

namespace MV.C17

open MV

/-- Python data model (Language Reference §3.3.8 "Emulating numeric types", §3.3.1 rich comparison) -/
def pythonDataModel : List (String × String) := [
  ("+", "__add__"), ("-", "__sub__"), ("*", "__mul__"), ("/", "__truediv__"), ("//", "__floordiv__"),
  ("mod", "__mod__"), ("^", "__pow__"), ("=", "__eq__"), (">", "__gt__"), ("<", "__lt__"),
  (">=", "__ge__"), ("<=", "__le__"), ("!=", "__ne__"), ("sqrt", "sqrt")]

/-- **operators_as_dunder**: every definable operator is emitted under the data model's method
    (`+kernel` here and below: the elaborator's own evaluation of string comparisons is several times
    dearer than the kernel's, which decides anyway) -/
theorem operators_as_dunder : ∀ p ∈ opMethodTable, p ∈ pythonDataModel := by decide +kernel

/-- distinct operators are emitted as distinct methods (none shadows another) -/
theorem methods_distinct : (opMethodTable.map Prod.snd).Nodup := by decide +kernel

/-- each operator has exactly one row -/
theorem operators_distinct : (opMethodTable.map Prod.fst).Nodup := by decide +kernel

/-- the arithmetic and comparison operators of the language that classes can define are all there -/
theorem definable_operators : ∀ o ∈ ["+", "-", "*", "/", "//", "mod", "^", "=", ">", "<"],
    o ∈ opMethodTable.map Prod.fst := by decide +kernel

end MV.C17
