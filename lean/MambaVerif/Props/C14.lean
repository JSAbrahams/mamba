/-
C14 — Layout trivia never changes meaning (lexer level).

The theorems are in *suffix form*: at any point where the lexer starts a new `into_tokens` call
(a token boundary), in ANY lexer state `st` (with its invariants) and for ANY remaining text `r`,
the listed trivia is inert for what the parser consumes: token kinds and texts with comments
filtered out (`parse/mod.rs`), positions ignored (they necessarily shift).  The parser's own
insensitivity to the number of NL tokens and the lifting to arbitrary insertion points inside a
program are covered by the correspondence and the end-to-end metamorphic oracle (see DESIGN.md).
-/
import MambaVerif.Lemmas.LexShape

namespace MV.C14

open MV

/-- what the parser consumes of a run from a configuration to the end of input -/
def consumed (r : LexRes (List Lex × LState)) : LexRes (List Tok) :=
  match r with
  | .ok (toks, st) => .ok (noComments (shapes toks ++ shapes st.flushIndents))
  | .err p => .err p
  | .panic n => .panic n

/-- equal verdict and equal consumed stream (error carets may shift) -/
def SameForParser (a b : LexRes (List Lex × LState)) : Prop :=
  match consumed a, consumed b with
  | .ok x, .ok y => x = y
  | .err _, .err _ => True
  | .panic m, .panic n => m = n
  | _, _ => False

/-- the dedents flushed at the end of input depend on the current indentation only -/
theorem flush_shape {s1 s2 : LState} (h : s1.curIndent = s2.curIndent) :
    shapes s1.flushIndents = shapes s2.flushIndents := by
  simp [LState.flushIndents, shapes, h]

/-- runs that agree up to carets are the same for the parser, also with comments in front of one -/
theorem sameForParser_prepend {a b : LexRes (List Lex × LState)} (pre : List Lex)
    (hpre : noComments (shapes pre) = []) (h : RunShEq a b) : SameForParser (prepend pre a) b := by
  rcases a with ⟨t1, s1⟩ | _ | _ <;> rcases b with ⟨t2, s2⟩ | _ | _ <;> try exact h
  obtain ⟨ht, hs, -, -⟩ := h
  show noComments (shapes (pre ++ t1) ++ shapes s1.flushIndents) = noComments (shapes t2 ++ shapes s2.flushIndents)
  rw [shapes_append, List.append_assoc, ht, flush_shape (congrArg LState.Sh.curIndent hs)]
  unfold noComments at hpre ⊢
  rw [List.filter_append, hpre, List.nil_append]

theorem sameForParser_of_runShEq {a b : LexRes (List Lex × LState)} (h : RunShEq a b) : SameForParser a b :=
  prepend_nil a ▸ sameForParser_prepend [] rfl h

/-- CRLF: `\r\n` is lexed exactly like `\n` (tokens *and* positions identical). -/
theorem crlf_inert (nested : List Char → LexRes (List Lex)) (r : List Char) (st : LState) :
    run nested ('\r' :: '\n' :: r) 0 st = run nested ('\n' :: r) 0 st := by
  rw [run_cons_tok (classify_crlf nested st.pos r), LState.token_nl rfl, run_nl]
  exact prepend_nil _

/-- spaces change neither the buffered newlines nor the current indentation -/
theorem run_spaces (nested : List Char → LexRes (List Lex)) (k : Nat) (tl : List Char) (st : LState) :
    ∃ st', run nested (List.replicate k ' ' ++ tl) 0 st = run nested tl 0 st' ∧
      st'.newlines = st.newlines ∧ st'.curIndent = st.curIndent := by
  induction k generalizing st with
  | zero => exact ⟨st, rfl, rfl, rfl⟩
  | succ k ih =>
    obtain ⟨st', e, hn, hc⟩ := ih st.space
    exact ⟨st', by rw [List.replicate_succ, List.cons_append, run_sp, e], hn, hc⟩

/-- Any number of trailing spaces before a line end (also on a whitespace-only line) is inert. -/
theorem trailing_spaces_inert (nested : List Char → LexRes (List Lex)) (k : Nat) (r : List Char) (st : LState)
    (h : NLInv st) :
    SameForParser (run nested (List.replicate k ' ' ++ '\n' :: r) 0 st) (run nested ('\n' :: r) 0 st) := by
  obtain ⟨st', e, hn, hc⟩ := run_spaces nested k ('\n' :: r) st
  rw [e, run_nl, run_nl]
  exact sameForParser_of_runShEq (run_shape nested r 0 _ _ (newline_sh (congrArg List.length hn) hc)
    (nlInv_newline fun l hl => h l (hn ▸ hl)) (nlInv_newline h))

/-- A trailing space before a line end (also on a whitespace-only line) is inert. -/
theorem trailing_space_inert (nested : List Char → LexRes (List Lex)) (r : List Char) (st : LState)
    (h : NLInv st) :
    SameForParser (run nested (' ' :: '\n' :: r) 0 st) (run nested ('\n' :: r) 0 st) :=
  trailing_spaces_inert nested 1 r st h

theorem sameForParser_eof (nested : List Char → LexRes (List Lex)) {s1 s2 : LState}
    (h : s1.curIndent = s2.curIndent) : SameForParser (run nested [] 0 s1) (run nested [] 0 s2) :=
  congrArg (fun d => noComments (shapes [] ++ d)) (flush_shape h)

/-- A trailing space at the very end of the input is inert. -/
theorem trailing_space_eof_inert (nested : List Char → LexRes (List Lex)) (st : LState) :
    SameForParser (run nested [' '] 0 st) (run nested [] 0 st) := by
  rw [run_sp]; exact sameForParser_eof nested rfl

/-- A final newline is inert: pending newlines are never flushed at end of input. -/
theorem final_newline_inert (nested : List Char → LexRes (List Lex)) (st : LState) :
    SameForParser (run nested ['\n'] 0 st) (run nested [] 0 st) := by
  rw [run_nl]; exact sameForParser_eof nested rfl

/-- the lexer state in the middle of a line, after a token -/
def MidLine (st : LState) : Prop :=
  st.tokenThisLine = true ∧ st.newlines = [] ∧ st.curIndent = st.lineIndent

/-- A trailing comment after a token on the same line is inert (comments are filtered before parsing). -/
theorem trailing_comment_inert (nested : List Char → LexRes (List Lex)) (cmt r : List Char) (st : LState)
    (hm : MidLine st) (hc : ∀ d ∈ cmt, d ≠ '\n' ∧ d ≠ '\r') :
    SameForParser (run nested ('#' :: cmt ++ '\n' :: r) 0 st) (run nested ('\n' :: r) 0 st) := by
  obtain ⟨h1, h2, h3⟩ := hm
  have hl : st.layout = [] := by simp [LState.layout, h2, h3]
  have hw : (cmt ++ '\n' :: r).takeWhile (fun d => d != '\n' && d != '\r') = cmt :=
    takeWhile_stop (fun d hd => by simpa using hc d hd) (fun d hd => by cases hd; rfl)
  rw [List.cons_append, run_cons_tok (classify_hash nested st.pos _), hw, run_skip,
    LState.token_of_ne (show Kind.Comment ≠ .NL by decide), hl]
  refine sameForParser_prepend _ rfl (run_shape nested _ 0 _ _ ?_ (fun _ hl' => nomatch hl') ?_)
  · simp [LState.sh, h1, h2, h3]
  · intro l hl'; rw [h2] at hl'; cases hl'

end MV.C14
