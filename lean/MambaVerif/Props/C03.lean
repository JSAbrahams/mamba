/-
C03 — Totality (lexer stage).  The Lean model is total by construction; the content of these
theorems is that no *Rust panic site* of the modelled code is reachable (they are explicit
`LexRes.panic` results of the model): the byte slice `cur_expr[0..len-1]` in the string arm, and
the nesting fuel of the model itself (site 99), for every input text.
The other stages (parser, context, unifier, generator, stack depth, wall time) are explored by the
crash oracle of the check, not proved.
-/
import MambaVerif.Lemmas.LexTotal

namespace MV.C03

open MV

theorem step_noPanic {nested : List Char → LexRes (List Lex)} {rest : List Char}
    (hn : ∀ e : List Char, e.length < rest.length → (nested e).NoPanic) (c : Char) (st : LState) :
    (step nested c rest st).NoPanic := by
  unfold step
  split <;> first | trivial | exact absurd ‹_› (classify_noPanic nested st.pos c rest hn _)

theorem run_noPanic (nested : List Char → LexRes (List Lex)) (cs : List Char) (skip : Nat) (st : LState)
    (hn : ∀ e : List Char, e.length < cs.length → (nested e).NoPanic) : (run nested cs skip st).NoPanic := by
  fun_induction run nested cs skip st with
  | case1 | case3 | case5 | case7 => trivial
  | case2 _ _ _ _ ih => exact ih fun e he => hn e (Nat.lt_succ_of_lt he)
  | case4 c rest st n hs =>
    have := step_noPanic (fun e he => hn e (Nat.lt_succ_of_lt he)) c st
    rw [hs] at this; exact this
  | case6 _ _ _ _ _ _ _ _ hr ih =>
    have := ih fun e he => hn e (Nat.lt_succ_of_lt he)
    rw [hr] at this; exact this

/-- the nested lexer never panics on texts shorter than its fuel -/
theorem tokenizeDirect_noPanic : ∀ (fuel : Nat) (s : List Char), s.length < fuel → (tokenizeDirect fuel s).NoPanic
  | fuel + 1, s, hs => by
    have := run_noPanic (tokenizeDirect fuel) s 0 LState.init
      fun e he => tokenizeDirect_noPanic fuel e (by omega)
    unfold tokenizeDirect
    split <;> first | trivial | (rename_i h; rw [h] at this; exact this)

/-- **lex_total**: for every input text the lexer returns tokens or a lexical error; no Rust
    panic site of the lexer (byte slicing of an interpolated expression) is reachable. -/
theorem lex_total (s : List Char) : (tokenize s).NoPanic := by
  have := run_noPanic (tokenizeDirect s.length) s 0 LState.init (tokenizeDirect_noPanic s.length)
  unfold tokenize tokenizeWith
  split <;> first | trivial | (rename_i h; rw [h] at this; exact this)

/-- the result is a token stream or a lexical error -/
theorem lex_ok_or_err (s : List Char) : (∃ toks, tokenize s = .ok toks) ∨ (∃ p, tokenize s = .err p) := by
  have := lex_total s
  cases h : tokenize s with
  | ok t => exact Or.inl ⟨t, rfl⟩
  | err p => exact Or.inr ⟨p, rfl⟩
  | panic n => rw [h] at this; exact this.elim

/-! Non-vacuity: the string arm with nested interpolation is exercised (`"a{b"c{d}"}e"`). -/
example : (match tokenize ['"', 'a', '{', 'b', '"', 'c', '{', 'd', '}', '"', '}', 'e', '"'] with
    | .ok toks => toks.length == 2 | _ => false) = true := by decide +kernel

end MV.C03
