/-
C16 — Emitted modules are self-contained: generator-used names are imported once.

Model of the import collector (`Imports` in `generate/convert/state.rs`), for EVERY sequence of
`add_import` / `add_from_import` calls the conversion may make:
* `imports_inv`   — each plain module, each `from` module and each member of a `from` import
  appears once;
* `imports_cover` — every name ever registered is present in the final collector (nothing is lost
  when a later call re-sorts or re-inserts); `provides_run` adds the converse.
That each generator-introduced name is registered where it is emitted, and that the statements are
prepended to the module, is decided by the free-name oracle on the emitted modules.

Every insertion of the model puts an element somewhere into a list, so up to order it is a `cons`
(`…_perm`); membership and `Nodup` are then read off the `cons` by `Perm.mem_iff` / `Perm.nodup_iff`.
-/
import MambaVerif.Model.Imports

namespace MV.C16

open MV

def Inv (s : Imp) : Prop :=
  s.imports.Nodup ∧ (s.fromImports.map Prod.fst).Nodup ∧ ∀ p ∈ s.fromImports, p.2.Nodup

theorem insertSorted_perm (x : String) (l : List String) : (insertSorted x l).Perm (x :: l) := by
  induction l with
  | nil => exact .refl _
  | cons y ys ih =>
    unfold insertSorted; split
    · exact .refl _
    · exact (ih.cons y).trans (.swap x y ys)

theorem sortStrings_perm (xs : List String) : (sortStrings xs).Perm xs := by
  have : ∀ acc, (xs.foldl (fun a x => insertSorted x a) acc).Perm (xs ++ acc) := by
    induction xs with
    | nil => exact fun _ => .refl _
    | cons x t ih =>
      exact fun acc => (ih _).trans (((insertSorted_perm x acc).append_left t).trans List.perm_middle)
  simpa [sortStrings] using this []

/-- the `contains` check before a `push` -/
theorem mem_addNew {x y : String} {l : List String} : y ∈ (if x ∈ l then l else l ++ [x]) ↔ y = x ∨ y ∈ l := by
  split
  · exact (or_iff_right_of_imp fun e => e ▸ ‹x ∈ l›).symm
  · simp [or_comm]

theorem nodup_addNew {x : String} {l : List String} (h : l.Nodup) : (if x ∈ l then l else l ++ [x]).Nodup := by
  split
  · exact h
  · exact (List.perm_append_singleton x l).nodup_iff.mpr (List.nodup_cons.mpr ⟨‹x ∉ l›, h⟩)

section Map
variable {m : List (String × List String)} {k : String} {v : List String}

theorem mapInsertNew_perm (k : String) (v : List String) (m : List (String × List String)) :
    (mapInsertNew k v m).Perm ((k, v) :: m) := by
  induction m with
  | nil => exact .refl _
  | cons q rest ih =>
    unfold mapInsertNew; split
    · exact .refl _
    · exact (ih.cons q).trans (.swap (k, v) q rest)

theorem mapReplace_keys (k : String) (v : List String) (m : List (String × List String)) :
    (mapReplace k v m).map Prod.fst = m.map Prod.fst := by
  induction m with
  | nil => rfl
  | cons q rest ih =>
    unfold mapReplace; split
    · rename_i e; subst e; rfl
    · simp [ih]

theorem mapInsert_keys_nodup (h : (m.map Prod.fst).Nodup) (k : String) (v : List String) :
    ((mapInsert k v m).map Prod.fst).Nodup := by
  unfold mapInsert; split
  · rwa [mapReplace_keys]
  · exact ((mapInsertNew_perm k v m).map _).nodup_iff.mpr (List.nodup_cons.mpr ⟨‹_›, h⟩)

theorem filter_ne_key (hk : k ∉ m.map Prod.fst) : m.filter (fun p => p.1 ≠ k) = m :=
  List.filter_eq_self.mpr fun p hp => decide_eq_true fun e => hk (List.mem_map.mpr ⟨p, hp, e⟩)

theorem mapReplace_perm (v : List String) (h : (m.map Prod.fst).Nodup) (hk : k ∈ m.map Prod.fst) :
    (mapReplace k v m).Perm ((k, v) :: m.filter (fun p => p.1 ≠ k)) := by
  induction m with
  | nil => simp at hk
  | cons q rest ih =>
    obtain ⟨k1, v1⟩ := q
    rw [List.map_cons, List.nodup_cons] at h
    unfold mapReplace; split
    · subst k1
      rw [List.filter_cons_of_neg (by simp), filter_ne_key h.1]
    · rename_i hne
      rw [List.filter_cons_of_pos (by simpa using Ne.symm hne)]
      exact ((ih h.2 ((List.mem_cons.mp hk).resolve_left hne)).cons _).trans (.swap ..)

/-- up to order, `BTreeMap::insert` drops the entry of `k`, if any, and adds `(k, v)` -/
theorem mapInsert_perm (h : (m.map Prod.fst).Nodup) (k : String) (v : List String) :
    (mapInsert k v m).Perm ((k, v) :: m.filter (fun p => p.1 ≠ k)) := by
  unfold mapInsert; split
  · exact mapReplace_perm v h ‹_›
  · rw [filter_ne_key ‹_›]; exact mapInsertNew_perm k v m

theorem mem_mapInsert (h : (m.map Prod.fst).Nodup) {p : String × List String} :
    p ∈ mapInsert k v m ↔ p = (k, v) ∨ p ∈ m ∧ p.1 ≠ k := by
  rw [(mapInsert_perm h k v).mem_iff]; simp

theorem mapGet_cons (k k1 : String) (v1 : List String) (m : List (String × List String)) :
    mapGet k ((k1, v1) :: m) = if k1 = k then some v1 else mapGet k m := by
  unfold mapGet; rw [List.find?_cons]; by_cases h : k1 = k <;> simp [h]

theorem mem_iff_mapGet (h : (m.map Prod.fst).Nodup) : (k, v) ∈ m ↔ mapGet k m = some v := by
  induction m with
  | nil => simp [mapGet]
  | cons q rest ih =>
    obtain ⟨k1, v1⟩ := q
    rw [List.map_cons, List.nodup_cons] at h
    rw [mapGet_cons, List.mem_cons]
    split
    · subst k1
      have : ∀ w, (k, w) ∉ rest := fun w hw => h.1 (List.mem_map.mpr ⟨_, hw, rfl⟩)
      simp [this, eq_comm]
    · rename_i hne; simp [Ne.symm hne, ih h.2]

end Map

/-- the member list `add_from_import` stores under a module, given the one it finds there -/
def newMembers (x : String) : Option (List String) → List String
  | some ms => sortStrings (if x ∈ ms then ms else ms ++ [x])
  | none => [x]

theorem mem_newMembers {x y : String} {o : Option (List String)} :
    y ∈ newMembers x o ↔ y = x ∨ ∃ ms, o = some ms ∧ y ∈ ms := by
  cases o with
  | none => simp [newMembers]
  | some ms => simp [newMembers, (sortStrings_perm _).mem_iff, mem_addNew]

theorem nodup_newMembers {x : String} {o : Option (List String)} (h : ∀ ms, o = some ms → ms.Nodup) :
    (newMembers x o).Nodup := by
  cases o with
  | none => simp [newMembers]
  | some ms => exact (sortStrings_perm _).nodup_iff.mpr (nodup_addNew (h ms rfl))

theorem addImport_eq (s : Imp) (m : String) :
    s.addImport m = { s with imports := if m ∈ s.imports then s.imports else s.imports ++ [m] } := by
  unfold Imp.addImport; split <;> rfl

theorem addFrom_eq (s : Imp) (m x : String) :
    s.addFrom m x =
      { s with fromImports := mapInsert m (newMembers x (mapGet m s.fromImports)) s.fromImports } := by
  unfold Imp.addFrom; split <;> simp [*, newMembers]

theorem inv_empty : Inv Imp.empty := ⟨.nil, .nil, by simp [Imp.empty]⟩

/-- the invariant is preserved by every call -/
theorem step_inv (s : Imp) (op : ImpOp) (h : Inv s) : Inv (s.step op) := by
  obtain ⟨h1, h2, h3⟩ := h
  cases op with
  | imp m => rw [Imp.step, addImport_eq]; exact ⟨nodup_addNew h1, h2, h3⟩
  | frm m x =>
    rw [Imp.step, addFrom_eq]
    refine ⟨h1, mapInsert_keys_nodup h2 _ _, fun p hp => ?_⟩
    rcases (mem_mapInsert h2).mp hp with rfl | ⟨hp, _⟩
    · exact nodup_newMembers fun ms hg => h3 _ ((mem_iff_mapGet h2).mpr hg)
    · exact h3 p hp

/-- **imports_inv**: for every sequence of registrations each module is imported once and each
    member once -/
theorem imports_inv (ops : List ImpOp) : Inv (Imp.run ops) :=
  List.foldlRecOn ops Imp.step inv_empty fun s h op _ => step_inv s op h

/-- what a collector provides -/
def Provides (s : Imp) : ImpOp → Prop
  | .imp m => m ∈ s.imports
  | .frm m x => ∃ ms, (m, ms) ∈ s.fromImports ∧ x ∈ ms

/-- a call adds exactly its registration to what is provided -/
theorem provides_step {s : Imp} (hi : Inv s) (op q : ImpOp) :
    Provides (s.step op) q ↔ q = op ∨ Provides s q := by
  cases op with
  | imp m =>
    rw [Imp.step, addImport_eq]
    cases q with
    | imp m' => simp [Provides, mem_addNew]
    | frm m' x' => simp [Provides]
  | frm m x =>
    rw [Imp.step, addFrom_eq]
    cases q with
    | imp m' => simp [Provides]
    | frm m' x' =>
      simp only [Provides, mem_mapInsert hi.2.1, Prod.mk.injEq, ImpOp.frm.injEq]
      by_cases hm : m' = m
      · subst hm; simp [mem_newMembers, mem_iff_mapGet hi.2.1]
      · simp [hm]

theorem provides_foldl (q : ImpOp) (ops : List ImpOp) (s : Imp) (hi : Inv s) :
    Provides (ops.foldl Imp.step s) q ↔ q ∈ ops ∨ Provides s q := by
  induction ops generalizing s with
  | nil => simp
  | cons op rest ih =>
    rw [List.foldl_cons, ih _ (step_inv s op hi), provides_step hi, List.mem_cons, or_left_comm, or_assoc]

/-- the final collector provides the registered names and no others -/
theorem provides_run (ops : List ImpOp) (q : ImpOp) : Provides (Imp.run ops) q ↔ q ∈ ops := by
  rw [Imp.run, provides_foldl q ops _ inv_empty]
  cases q <;> simp [Provides, Imp.empty]

/-- **imports_cover**: every name registered at any point of the conversion is provided by the
    final collector -/
theorem imports_cover (ops : List ImpOp) (op : ImpOp) (h : op ∈ ops) : Provides (Imp.run ops) op :=
  (provides_run ops op).mpr h

/-! Non-vacuity: the registrations of a module using sqrt, an optional and a union. -/
example : (Imp.run [.imp "math", .frm "typing" "Union", .frm "typing" "Optional", .imp "math", .frm "typing" "Union"]).render
    = ["import math", "from typing import Optional, Union"] := by decide +kernel

end MV.C16
