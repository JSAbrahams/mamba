/-
C13 — Projects: all-or-nothing, mirrored layout.

On the model of `transpile_dir` / `mamba_to_python` (Model/Pipeline.lean), for every project (any
number of files, any paths, any stage outcomes) and every prior content of the output directory:
* `all_or_nothing` — if any file has a lexical, syntax, type or generation error (or the context
  cannot be built) the result is a non-empty list of errors and NOTHING is written;
* `errors_name_their_file` — every reported error carries the path of a file that has that error;
* `mirror_layout` — on success exactly the paths `withPy rel` are (over)written with that file's
  output, and every other path of the output directory is untouched.
That a file's stage outcome does not depend on the order of the files or on unrelated files
(monotonicity of context building and checking) is not modelled: it is decided by the check's
oracle on all permutations / added files of generated projects.
-/
import MambaVerif.Model.Pipeline

namespace MV.C13

open MV

def isGood : Outcome → Bool
  | .good _ => true
  | _ => false

/-- a type error outcome carries at least one message (the checker returns non-empty lists) -/
def WF (files : List PFile) : Prop := ∀ f ∈ files, ∀ ms, f.outcome = .typeErr ms → ms ≠ []

/-- `mamba_to_python` returns the first non-empty error list, or the outputs when all are empty -/
theorem pipeline_spec (files : List PFile) (ctxErr : List String) :
    match pipeline files ctxErr with
    | .ok outs => (parseErrs files = [] ∧ ctxErr = [] ∧ typeErrs files = [] ∧ genErrs files = []) ∧ outs = outputs files
    | .error es => es ≠ [] ∧ (es = parseErrs files ∨ es = ctxErr.map (fun m => ("<unknown>", m)) ∨
        es = typeErrs files ∨ es = genErrs files) := by
  unfold pipeline
  by_cases h1 : parseErrs files = []
  · by_cases h2 : ctxErr = []
    · by_cases h3 : typeErrs files = []
      · by_cases h4 : genErrs files = [] <;> simp [*]
      · simp [*]
    · simp [*]
  · simp [*]

section Stages
variable {files : List PFile} {e : String × String}

theorem mem_parseErrs : e ∈ parseErrs files ↔ ∃ f ∈ files, f.outcome = .parseErr e.2 ∧ f.rel = e.1 := by
  obtain ⟨r, m⟩ := e
  simp only [parseErrs, List.mem_filterMap]
  refine exists_congr fun f => and_congr_right fun _ => ?_
  cases f.outcome <;> simp [and_comm]

theorem mem_typeErrs :
    e ∈ typeErrs files ↔ ∃ f ∈ files, ∃ ms, f.outcome = .typeErr ms ∧ e.2 ∈ ms ∧ f.rel = e.1 := by
  obtain ⟨r, m⟩ := e
  simp only [typeErrs, List.mem_flatMap]
  refine exists_congr fun f => and_congr_right fun _ => ?_
  cases f.outcome <;> simp

theorem mem_genErrs : e ∈ genErrs files ↔ ∃ f ∈ files, f.outcome = .genErr e.2 ∧ f.rel = e.1 := by
  obtain ⟨r, m⟩ := e
  simp only [genErrs, List.mem_filterMap]
  refine exists_congr fun f => and_congr_right fun _ => ?_
  cases f.outcome <;> simp [and_comm]

end Stages

/-- under `WF`, success means that every file is good and the context could be built -/
theorem pipeline_ok {files : List PFile} {ctxErr : List String} {outs : List (String × String)}
    (hw : WF files) (h : pipeline files ctxErr = .ok outs) :
    outs = outputs files ∧ ctxErr = [] ∧ ∀ f ∈ files, isGood f.outcome = true := by
  have hp := pipeline_spec files ctxErr
  rw [h] at hp
  obtain ⟨⟨h1, h2, h3, h4⟩, ho⟩ := hp
  refine ⟨ho, h2, fun f hf => ?_⟩
  -- a file that is not good would leave an error in the list of its stage
  cases ho : f.outcome with
  | good py => rfl
  | parseErr m => exact absurd (mem_parseErrs (e := (f.rel, m)) |>.mpr ⟨f, hf, ho, rfl⟩) (h1 ▸ List.not_mem_nil)
  | typeErr ms =>
    obtain ⟨m, hm⟩ := List.exists_mem_of_ne_nil ms (hw f hf ms ho)
    exact absurd (mem_typeErrs (e := (f.rel, m)) |>.mpr ⟨f, hf, ms, ho, hm, rfl⟩) (h3 ▸ List.not_mem_nil)
  | genErr m => exact absurd (mem_genErrs (e := (f.rel, m)) |>.mpr ⟨f, hf, ho, rfl⟩) (h4 ▸ List.not_mem_nil)

/-- **all_or_nothing** -/
theorem all_or_nothing (fs : FS) (files : List PFile) (ctxErr : List String) (hw : WF files)
    (hbad : (∃ f ∈ files, isGood f.outcome = false) ∨ ctxErr ≠ []) :
    ∃ es, es ≠ [] ∧ transpileDir fs files ctxErr = (.error es, fs) := by
  unfold transpileDir
  cases h : pipeline files ctxErr with
  | error es =>
    have hp := pipeline_spec files ctxErr
    rw [h] at hp
    exact ⟨es, hp.1, rfl⟩
  | ok outs =>
    obtain ⟨_, hc, hg⟩ := pipeline_ok hw h
    rcases hbad with ⟨f, hf, hb⟩ | hb
    · rw [hg f hf] at hb; contradiction
    · contradiction

/-- **errors_name_their_file**: stage errors are reported with the path of the file that has them -/
theorem errors_name_their_file (files : List PFile) (ctxErr : List String) (es : List (String × String))
    (h : pipeline files ctxErr = .error es) (hc : ctxErr = []) :
    ∀ e ∈ es, ∃ f ∈ files, f.rel = e.1 ∧ isGood f.outcome = false := by
  have hp := pipeline_spec files ctxErr
  rw [h] at hp
  intro e he
  obtain ⟨hne, rfl | rfl | rfl | rfl⟩ := hp
  · obtain ⟨f, hf, ho, hr⟩ := mem_parseErrs.mp he
    exact ⟨f, hf, hr, by rw [ho]; rfl⟩
  · simp [hc] at hne
  · obtain ⟨f, hf, ms, ho, _, hr⟩ := mem_typeErrs.mp he
    exact ⟨f, hf, hr, by rw [ho]; rfl⟩
  · obtain ⟨f, hf, ho, hr⟩ := mem_genErrs.mp he
    exact ⟨f, hf, hr, by rw [ho]; rfl⟩

theorem lookup_write (fs : FS) (p c q : String) : (fs.write p c).lookup q = if q = p then some c else fs.lookup q := by
  unfold FS.write FS.lookup
  rw [List.find?_cons]; by_cases h : p = q <;> simp [h, eq_comm]

/-- the write loop stacks the outputs on the old directory, the last one on top -/
theorem foldl_write (outs : List (String × String)) (fs : FS) :
    outs.foldl (fun acc o => acc.write (withPy o.1) o.2) fs =
      (outs.map fun o => (withPy o.1, o.2)).reverse ++ fs :=
  List.foldl_flip_cons_eq_append

theorem lookup_writes (outs : List (String × String)) : ∀ (fs : FS) (q : String),
    (outs.foldl (fun acc o => acc.write (withPy o.1) o.2) fs).lookup q =
      match (outs.reverse.find? (fun o => withPy o.1 = q)) with
      | some o => some o.2
      | none => fs.lookup q := by
  intro fs q
  rw [foldl_write, FS.lookup, List.find?_append, ← List.map_reverse, List.find?_map]
  cases h : outs.reverse.find? (fun o => decide (withPy o.1 = q)) <;>
    simp [Function.comp_def, h, FS.lookup]

/-- **mirror_layout**: on success a path of the output directory holds the output of the (last) file
    mapped to it, and every path no file is mapped to keeps its prior content -/
theorem mirror_layout (fs : FS) (files : List PFile) (ctxErr : List String) (outs : List (String × String))
    (h : pipeline files ctxErr = .ok outs) (q : String) :
    (transpileDir fs files ctxErr).1 = .ok () ∧
    (transpileDir fs files ctxErr).2.lookup q =
      match (outs.reverse.find? (fun o => withPy o.1 = q)) with
      | some o => some o.2
      | none => fs.lookup q := by
  unfold transpileDir
  rw [h]
  exact ⟨rfl, lookup_writes outs fs q⟩

theorem outputs_all_good {files : List PFile} (h : ∀ f ∈ files, isGood f.outcome = true) :
    (outputs files).map Prod.fst = files.map PFile.rel := by
  induction files with
  | nil => rfl
  | cons f rest ih =>
    obtain ⟨hf, hr⟩ := List.forall_mem_cons.mp h
    cases ho : f.outcome <;> simp [ho, isGood] at hf
    rw [outputs, List.filterMap_cons, ho, List.map_cons, List.map_cons, ← ih hr]; rfl

/-- on success there is one output per file, in file order, under that file's path -/
theorem outputs_mirror_files (files : List PFile) (ctxErr : List String) (outs : List (String × String))
    (hw : WF files) (h : pipeline files ctxErr = .ok outs) : outs.map Prod.fst = files.map PFile.rel := by
  obtain ⟨rfl, _, hg⟩ := pipeline_ok hw h
  exact outputs_all_good hg

end MV.C13
