/-
C20 — Assignability is a sound order (Name / TrueName layers).

`nameSup V` / `tnSup V` are the models of `Name::is_superset_of` / `TrueName::is_superset_of` over an
ARBITRARY relation `V` on variants; the theorems therefore hold for every class table, every fuel and
every type of any depth (`isSuperset tbl fuel = nameSup (variantSup tbl fuel)`).  The class-table
recursion itself (`variantSup`: `Context::class`, `has_parent`) is tied to the code by the exhaustive
correspondence on the property's finite universe, where reflexivity, transitivity over all triples,
ancestors and unrelated classes are decided by exhaustive enumeration of the implementation's answers.
-/
import MambaVerif.Lemmas.TyBasic
import MambaVerif.Lemmas.TyUnion

namespace MV.C20

open MV

variable (V : TName → TName → R)

/-- **union_le_iff / member-wise characterisation**: for a non-interchangeable right-hand side and
    error-free comparisons, `S ⊒ O` holds exactly when every member of `O` is below some member of `S`. -/
theorem sup_iff_members (s o : NameT) (hi : o.inter = false) (hne : (!s.isEmpty && o.isEmpty) = false)
    (h : NoErr V s o) :
    nameSup V s o = .ok true ↔ ∀ n ∈ o.names, ∃ m ∈ s.names, tnSup V m n = .ok true :=
  (nameSup_true_iff V s o hi h).trans (and_iff_right hne)

/-- a union is assignable to `U` exactly when each member is (members given as two lists) -/
theorem union_le_iff (u : NameT) (a b : List TName)
    (hne : (!u.isEmpty && (NameT.mk false (a ++ b)).isEmpty) = false)
    (hna : (!u.isEmpty && (NameT.mk false a).isEmpty) = false) (hnb : (!u.isEmpty && (NameT.mk false b).isEmpty) = false)
    (h : NoErr V u (.mk false (a ++ b))) :
    nameSup V u (.mk false (a ++ b)) = .ok true ↔
      (nameSup V u (.mk false a) = .ok true ∧ nameSup V u (.mk false b) = .ok true) := by
  rw [sup_iff_members V u _ rfl hne h,
    sup_iff_members V u _ rfl hna fun m hm n hn => h m hm n (List.mem_append_left b hn),
    sup_iff_members V u _ rfl hnb fun m hm n hn => h m hm n (List.mem_append_right a hn)]
  exact List.forall_mem_append

/-- **order_indep**: the answer does not depend on the order in which the members of either side are
    stored (any two storage orders of the same sets) -/
theorem order_indep (s s' o o' : NameT) (hi : o.inter = false) (hi' : o'.inter = false)
    (hs : ∀ m, m ∈ s.names ↔ m ∈ s'.names) (ho : ∀ n, n ∈ o.names ↔ n ∈ o'.names)
    (hne : (!s.isEmpty && o.isEmpty) = false) (hne' : (!s'.isEmpty && o'.isEmpty) = false)
    (h : NoErr V s o) :
    nameSup V s o = .ok true ↔ nameSup V s' o' = .ok true := by
  rw [sup_iff_members V s o hi hne h,
    sup_iff_members V s' o' hi' hne' fun m hm n hn => h m ((hs m).mpr hm) n ((ho n).mpr hn)]
  simp only [hs, ho]

/-- `T?` is never assignable to a non-nullable `T`, whatever the classes are -/
theorem nullable_not_le_nonnull (s o : TName) (hs : s.nullable = false) (ho : o.nullable = true)
    (hne : (!s.isEmpty && o.isEmpty) = false) : tnSup V s o = .ok false := by
  simp [tnSup, hne, hs, ho]

/-- `None` is assignable to every nullable type -/
theorem none_le_nullable (s o : TName) (hs : s.nullable = true) (ho : o.isNull = true)
    (hne : (!s.isEmpty && o.isEmpty) = false) : tnSup V s o = .ok true :=
  (tnSup_true_iff V s o).mpr ⟨hne, fun _ => hs, .inr ⟨hs, ho⟩⟩

/-- `T` and `T?` are assignable to `T?` as soon as the variants are related -/
theorem le_nullable_of_variant (s o : TName) (hs : s.nullable = true) (hv : V s o = .ok true)
    (hne : (!s.isEmpty && o.isEmpty) = false) : tnSup V s o = .ok true :=
  (tnSup_true_iff V s o).mpr ⟨hne, fun _ => hs, .inl hv⟩

/-- a non-nullable type accepts exactly what its variant accepts among non-nullable types -/
theorem nonnull_sup (s o : TName) (hs : s.nullable = false) (ho : o.nullable = false)
    (hne : (!s.isEmpty && o.isEmpty) = false) : tnSup V s o = V s o := by
  simp [tnSup, hne, hs, ho]

/-! ### Reflexivity and transitivity lift from the class table to every type

The class-table relation `V` (on variants) is decided exhaustively on the property's universe; the
theorems below carry its reflexivity and transitivity to ALL nullable variants and ALL unions built over
it, of any size. -/

/-- the member-level relation is reflexive wherever the variant relation is -/
theorem tnSup_refl (t : TName) (hv : V t t = .ok true) : tnSup V t t = .ok true :=
  (tnSup_true_iff V t t).mpr ⟨Bool.not_and_self _, id, .inl hv⟩

/-- **transitivity of the member-level relation**: for a variant relation that is transitive and below
    which `None` only has `None`, nullable flags and the empty tuple do not break transitivity -/
theorem tnSup_trans (a b c : TName)
    (htrans : V a b = .ok true → V b c = .ok true → V a c = .ok true)
    (hnull : b.isNull = true → V b c = .ok true → c.isNull = true)
    (h1 : tnSup V a b = .ok true) (h2 : tnSup V b c = .ok true) : tnSup V a c = .ok true := by
  rw [tnSup_true_iff] at h1 h2 ⊢
  obtain ⟨e1, n1, v1⟩ := h1
  obtain ⟨e2, n2, v2⟩ := h2
  refine ⟨emptyGuard_trans e1 e2, n1 ∘ n2, ?_⟩
  rcases v1, v2 with ⟨v1 | ⟨an, bN⟩, v2 | ⟨bn, cN⟩⟩
  · exact .inl (htrans v1 v2)
  · exact .inr ⟨n1 bn, cN⟩
  · exact .inr ⟨an, hnull bN v2⟩
  · exact .inr ⟨an, cN⟩

/-- **reflexivity for unions of any size** (non-interchangeable names) -/
theorem nameSup_refl (s : NameT) (hi : s.inter = false) (h : NoErr V s s)
    (hv : ∀ n ∈ s.names, V n n = .ok true) : nameSup V s s = .ok true :=
  (nameSup_true_iff V s s hi h).mpr
    ⟨Bool.not_and_self _, fun n hn => ⟨n, hn, tnSup_refl V n (hv n hn)⟩⟩

/-- **transitivity for unions of any size**: if the variant relation is transitive (and only `None` is
    below `None`) on the members involved, then `S ⊒ O` and `O ⊒ P` give `S ⊒ P` -/
theorem nameSup_trans (s o p : NameT) (hio : o.inter = false) (hip : p.inter = false)
    (hso : NoErr V s o) (hop : NoErr V o p) (hsp : NoErr V s p)
    (htrans : ∀ a ∈ s.names, ∀ b ∈ o.names, ∀ c ∈ p.names, V a b = .ok true → V b c = .ok true → V a c = .ok true)
    (hnull : ∀ b ∈ o.names, ∀ c ∈ p.names, b.isNull = true → V b c = .ok true → c.isNull = true)
    (h1 : nameSup V s o = .ok true) (h2 : nameSup V o p = .ok true) : nameSup V s p = .ok true := by
  rw [nameSup_true_iff V _ _ hio hso] at h1
  rw [nameSup_true_iff V _ _ hip hop] at h2
  rw [nameSup_true_iff V _ _ hip hsp]
  refine ⟨emptyGuard_trans h1.1 h2.1, fun c hc => ?_⟩
  obtain ⟨b, hb, hbc⟩ := h2.2 c hc
  obtain ⟨a, ha, hab⟩ := h1.2 b hb
  exact ⟨a, ha, tnSup_trans V a b c (htrans a ha b hb c hc) (hnull b hb c hc) hab hbc⟩

/-! Non-vacuity: on a two-class table `Int` (child of `Float`) the relation is the expected one. -/
def tbl2 : Tbl := [⟨"Float", [], []⟩, ⟨"Int", [], [.mk false true "Float" []]⟩]
def tInt : NameT := .mk false [.mk false true "Int" []]
def tFloat : NameT := .mk false [.mk false true "Float" []]
def tIntOrFloat : NameT := .mk false [.mk false true "Int" [], .mk false true "Float" []]
example : isSuperset tbl2 8 tFloat tInt = .ok true ∧ isSuperset tbl2 8 tInt tFloat = .ok false
    ∧ isSuperset tbl2 8 tFloat tIntOrFloat = .ok true ∧ isSuperset tbl2 8 tInt tIntOrFloat = .ok false := by
  decide +kernel

/-- non-vacuity of the transitivity theorem: a chain through a union on a three-level hierarchy -/
def tbl3 : Tbl := [⟨"A", [], []⟩, ⟨"B", [], [.mk false true "A" []]⟩, ⟨"C", [], [.mk false true "B" []]⟩, ⟨"None", [], []⟩]
def tAq : NameT := .mk false [.mk true true "A" []]
def tBorNone : NameT := .mk false [.mk false true "B" [], .mk false true "None" []]
def tC : NameT := .mk false [.mk false true "C" []]
example : isSuperset tbl3 8 tAq tBorNone = .ok true ∧ isSuperset tbl3 8 tBorNone tC = .ok true
    ∧ isSuperset tbl3 8 tAq tC = .ok true ∧ isSuperset tbl3 8 tC tAq = .ok false := by
  decide +kernel

/-! ### forming unions (`Name::union`) — as sets of members, for names without a `None` member

(`…_partial`: the branch of `Name::union` that folds a `None` member into nullable members is not covered by
these theorems; it is decided on the universe by the oracle's law `union-commutative` and by the model
correspondence on `tyunion`.) -/

/-- **union_comm_partial**: `A ∪ B` and `B ∪ A` have the same members -/
theorem union_comm_partial (a b : NameT) (h : NoNull (a.names ++ b.names)) :
    SameKeys (a.union b).names (b.union a).names :=
  sameKeys_iff.mpr fun k => by
    rw [mem_keys_union a b h, mem_keys_union b a (noNull_append.mpr (noNull_append.mp h).symm)]
    exact or_comm

/-- **union_idem_partial**: `A ∪ A` has the members of `A` -/
theorem union_idem_partial (a : NameT) (h : NoNull a.names) : SameKeys (a.union a).names a.names :=
  sameKeys_iff.mpr fun k => by
    rw [mem_keys_union a a (noNull_append.mpr ⟨h, h⟩)]
    exact or_self_iff

/-- **union_assoc_partial**: `(A ∪ B) ∪ C` and `A ∪ (B ∪ C)` have the same members -/
theorem union_assoc_partial (a b c : NameT) (h : NoNull (a.names ++ b.names ++ c.names)) :
    SameKeys ((a.union b).union c).names (a.union (b.union c)).names := by
  obtain ⟨hab, hc⟩ := noNull_append.mp h
  obtain ⟨ha, hb⟩ := noNull_append.mp hab
  have hbc := noNull_append.mpr ⟨hb, hc⟩
  refine sameKeys_iff.mpr fun k => ?_
  rw [mem_keys_union _ c (noNull_append.mpr ⟨noNull_union a b hab, hc⟩), mem_keys_union a b hab,
    mem_keys_union a _ (noNull_append.mpr ⟨ha, noNull_union b c hbc⟩), mem_keys_union b c hbc]
  exact or_assoc

end MV.C20
