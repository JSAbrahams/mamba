/-
C11 — The annotate option is semantically inert.

On the model of `convert_def` (Model/Annotate.lean): with annotations erased, converting a function
with the option on and off gives the same result — in particular the decision to `return` the last
expression does not depend on the option — and the option only ever decides `ty` fields.
`retDecision` is regenerated from `definition.rs`: if the decision is taken from the *rendered*
annotation again (the defect repaired by the fix of this property), `annotate_inert_fun` no longer
holds and its proof fails.  The translator also refuses any use of the option that is not one of
the modelled guards, and any mention of it outside the generate stage (`verdict_independent`).
-/
import MambaVerif.Model.Annotate

namespace MV.C11

open MV

/-- **annotate_inert** for functions: same program once annotations are erased -/
theorem annotate_inert_fun (f : FunIn) : (convFun true f).erase = (convFun false f).erase := by
  simp [convFun, FunOut.erase, retDecision]

/-- the option never changes what a function body does: the implicit return is decided alike -/
theorem return_decision_inert (f : FunIn) : (convFun true f).lastIsReturn = (convFun false f).lastIsReturn :=
  (congrArg FunOut.lastIsReturn (annotate_inert_fun f) :)  -- erasing keeps `lastIsReturn`

/-- switched off, no variable, argument or return annotation is emitted -/
theorem off_emits_no_annotation (v : VarIn) (a : ArgIn) (f : FunIn) :
    varDefTy false v = none ∧ funArgTy false a = none ∧ (convFun false f).ret = none := by
  refine ⟨?_, rfl, rfl⟩
  unfold varDefTy
  split <;> rfl

/-- switched on, a declared type is rendered (unless suppressed by `expand_ty` / tuple literal / self) -/
theorem on_emits_declared (v : VarIn) (t : Nat) (h1 : v.tyDeclared = some t) (h2 : v.expandTy = true)
    (h3 : v.isTupleLiteral = false) : varDefTy true v = some t := by
  simp [varDefTy, h1, h2, h3]

/-- the decision that repaired the defect of this property is the one in the tree -/
theorem ret_decision_is_declared : retDecision = .declared := by decide

/-! Non-vacuity: a function with a declared return type returns its last expression either way. -/
example : (convFun false ⟨some 1, [⟨false, true, some 2⟩]⟩).lastIsReturn = true
    ∧ (convFun true ⟨some 1, [⟨false, true, some 2⟩]⟩).lastIsReturn = true := by decide

end MV.C11
