/-
C01 — Accepted programs keep their meaning (range desugaring).

`rangeEnd` is the end argument `convert_range_slice` emits; the adjustment (`+ 1` when inclusive)
and the default step are regenerated from `range_slice.rs` on every run.  Theorem: for every start,
end, inclusiveness and POSITIVE step, Python's `range` over the emitted arguments enumerates exactly
the values the Mamba range means.  For a negative step the inclusive end is wrong (`hi + 1` where
`hi - 1` is needed): `range_negative_step_witness` proves the negation on `3 ..= 1 .. -1`; it is a
recorded known finding of this property.
The conversion of the other constructs is decided by the execution oracle of the check.
-/
import MambaVerif.Model.Range
import MambaVerif.Lemmas.Tail
import MambaVerif.Generated.TailTables

namespace MV.C01

open MV

/-- the loop test of `range` over the emitted end is the loop test of the source range (the regenerated
    adjustment is `+ 1` when inclusive) -/
theorem lt_rangeEnd (i hi : Int) (incl : Bool) : i < rangeEnd hi incl ↔ if incl then i ≤ hi else i < hi := by
  cases incl <;> simp [rangeEnd, rangeAdjustWhenInclusive, rangeAdjust, Int.lt_add_one_iff]

/-- **range_enumerates_partial** (positive step) -/
theorem range_enumerates_partial (fuel : Nat) (lo hi : Int) (incl : Bool) (s : Int) (hs : s > 0) :
    pyRange fuel lo (rangeEnd hi incl) s = srcRange fuel lo hi incl s := by
  induction fuel generalizing lo with
  | zero => rfl
  | succ n ih => simp only [pyRange, srcRange, hs, if_true, lt_rangeEnd, ih]

/-- the default step (no `.. step` in the source) is 1, for which the theorem applies -/
theorem default_step_positive : rangeDefaultStep > 0 := by decide

/-- the full statement is FALSE for negative steps on the current tree: `3 ..= 1 .. -1` means
    `[3, 2, 1]` but `range(3, 1 + 1, -1)` is `[3]` -/
theorem range_negative_step_witness :
    pyRange 10 3 (rangeEnd 1 true) (-1) = [3] ∧ srcRange 10 3 1 true (-1) = [3, 2, 1] := by
  decide +kernel

/-! Non-vacuity: `1 ..= 7 .. 3` enumerates 1, 4, 7. -/
example : pyRange 10 1 (rangeEnd 7 true) 3 = [1, 4, 7] ∧ srcRange 10 1 7 true 3 = [1, 4, 7] := by decide +kernel

/-! ### where a definition and the implicit return land: every path

`def x := if … / match … / … handle …` and the implicit return of a function body are desugared by
`append_assign` / `append_ret` (generate/convert/mod.rs), modelled in `Model/Tail.lean`.  The list of
`Core` variants the Rust functions descend into and the variants they leave alone are REGENERATED from
the source on every run (`Generated/TailTables.lean`) and must coincide with what the model does. -/

/-- the model descends into, and skips, exactly the variants the Rust functions do (regenerated) -/
theorem tail_tables_match :
    assignDescends = modelDescends ∧ retDescends = modelDescends ∧
      assignSkips = modelAssignSkips ∧ retSkips = modelRetSkips := ⟨rfl, rfl, rfl, rfl⟩

/-- … and applies the transformation to exactly the children the Rust arms apply it to (regenerated:
    the fields of each rebuilt variant whose initialiser calls the function) -/
theorem tail_children_match : assignChildren = modelChildren ∧ retChildren = modelChildren := ⟨rfl, rfl⟩

/-- **definition_binds_on_every_path**: after `append_assign`, no path through the statement tree —
    whatever the nesting of blocks, conditionals, match arms, try/except handlers — ends in a bare
    expression: every path ends in an assignment (to `x` where an expression stood), a `return`, a
    `raise`, or an empty block.  Exactly the tail statements change (`leaves_appendAssign`). -/
theorem definition_binds_on_every_path (x : Nat) (s : TS) :
    ∀ l ∈ leaves (appendAssign x s), (∃ y e, l = .assign y e) ∨ (∃ e, l = .ret e) ∨ (∃ e, l = .raise e) ∨ l = .block [] := by
  intro l hl
  rw [leaves_appendAssign] at hl
  obtain ⟨l0, h0, rfl⟩ := List.mem_map.mp hl
  exact TS.leaf_cases (expr := fun e => .inl ⟨x, e, rfl⟩) (assign := fun y e => .inl ⟨y, e, rfl⟩)
    (retAssign := fun y e => .inl ⟨x, y + e, rfl⟩) (ret := fun e => .inr (.inl ⟨e, rfl⟩))
    (raise := fun e => .inr (.inr (.inl ⟨e, rfl⟩))) (empty := .inr (.inr (.inr rfl)))
    l0 (leaves_are_leaves s l0 h0)

/-- where an expression stood in tail position, it is `x` that is assigned, with that expression -/
theorem definition_assigns_the_tail_expression (x : Nat) (s : TS) :
    leaves (appendAssign x s) = (leaves s).map (wrapA x) := leaves_appendAssign x s

/-- **implicit_return_on_every_path**: after `append_ret` every path ends in a `return` or a `raise` —
    or in the `return <assignment>` that `append_ret` makes of an assignment in tail position, which is
    not Python (see the witness below). -/
theorem implicit_return_on_every_path (s : TS) :
    ∀ l ∈ leaves (appendRet s), (∃ e, l = .ret e) ∨ (∃ e, l = .raise e) ∨ (∃ y e, l = .retAssign y e) := by
  intro l hl
  rw [leaves_appendRet] at hl
  obtain ⟨l0, h0, rfl⟩ := List.mem_map.mp hl
  exact TS.leaf_cases (expr := fun e => .inl ⟨e, rfl⟩) (ret := fun e => .inl ⟨e, rfl⟩) (empty := .inl ⟨0, rfl⟩)
    (raise := fun e => .inr (.inl ⟨e, rfl⟩))
    (assign := fun y e => .inr (.inr ⟨y, e, rfl⟩)) (retAssign := fun y e => .inr (.inr ⟨y, e, rfl⟩))
    l0 (leaves_are_leaves s l0 h0)

/-- WITNESS (known finding C02 `function-ends-with-match-definition`): a body that ends in a
    definition fed by a match gets `return <assignment>` in every arm -/
theorem return_of_definition_witness :
    leaves (appendRet (.block [.matchS 1 [.case 1 (.assign 7 2), .case 0 (.assign 7 3)]])) =
      [.retAssign 7 2, .retAssign 7 3] := rfl

/-- non-vacuity: a conditional whose first branch ends in a nested match with a block arm -/
example : leaves (appendAssign 9 (.ifElse 1 (.block [.expr 5, .matchS 2 [.case 1 (.block [.expr 6, .expr 7]), .case 0 (.expr 8)]]) (.expr 3))) =
    [.assign 9 7, .assign 9 8, .assign 9 3] := rfl

end MV.C01
