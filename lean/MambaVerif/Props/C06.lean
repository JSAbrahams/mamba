/-
C06 — Null safety (name layer).

On the models of `TrueName::is_superset_of` and `Name::union` (Model/Ty.lean), for an arbitrary
relation `V` on variants (every class table, every depth):
* a non-nullable `T` never accepts a nullable type, and never accepts `None` unless its class does;
* `T?` accepts `None`, and accepts `T`/`T?` whenever the variants are related (reflexivity of the
  class relation gives `T? ⊒ T` and `T? ⊒ T?`);
* forming the union of a non-null type with `None` yields only nullable members and no `None`
  member (`union_none_nullable`): this is how `x: T := if c then v else None` becomes `T?`.
The flow positions (initialiser, reassignment, argument, return, operand, receiver) are decided by
the verdict oracle of the check over all positions × types × contexts, both directions.
-/
import MambaVerif.Props.C20

namespace MV.C06

open MV

variable (V : TName → TName → R)

/-- **not_sup_nullable**: `T` non-nullable never accepts `T?` (nor any nullable type) -/
theorem not_sup_nullable (s o : TName) (hs : s.nullable = false) (ho : o.nullable = true)
    (hne : (!s.isEmpty && o.isEmpty) = false) : tnSup V s o = .ok false :=
  MV.C20.nullable_not_le_nonnull V s o hs ho hne

/-- **sup_of_nullable**: `T?` accepts `None` -/
theorem nullable_sup_none (s o : TName) (hs : s.nullable = true) (ho : o.isNull = true)
    (hne : (!s.isEmpty && o.isEmpty) = false) : tnSup V s o = .ok true :=
  MV.C20.none_le_nullable V s o hs ho hne

/-- **sup_of_nullable**: `T?` accepts `T` and `T?` when the class relation relates the variants -/
theorem nullable_sup_self (s o : TName) (hs : s.nullable = true) (hv : V s o = .ok true)
    (hne : (!s.isEmpty && o.isEmpty) = false) : tnSup V s o = .ok true :=
  MV.C20.le_nullable_of_variant V s o hs hv hne

/-- **none_not_sup**: a non-nullable `T` accepts `None` only if the class relation does -/
theorem none_sup_iff_variant (s o : TName) (hs : s.nullable = false) (ho : o.nullable = false)
    (hne : (!s.isEmpty && o.isEmpty) = false) : tnSup V s o = V s o :=
  MV.C20.nonnull_sup V s o hs ho hne

/-- **union_none_nullable**: when a union contains `None` and something else, every member of the
    result is nullable and none of them is `None` -/
theorem union_none_nullable (a b : NameT)
    (hnull : (dedupT (a.names ++ b.names)).any TName.isNull = true)
    (hlen : (dedupT (a.names ++ b.names)).length > 1) :
    ∀ t ∈ (a.union b).names, t.nullable = true ∧ t.isNull = false := by
  intro t ht
  rw [union_names, if_pos (by simp [hnull, hlen])] at ht
  obtain ⟨n, hn, rfl⟩ := List.mem_map.mp (dedupT_sub _ t ht)
  exact ⟨rfl, by simpa [TName.isNull, TName.base] using (List.mem_filter.mp hn).2⟩

/-! Non-vacuity: `Int ∪ None` is `Int?`. -/
example : ((NameT.mk false [.mk false true "Int" []]).union (.mk false [.mk false true "None" []])).names.map
    (fun t => (t.base, t.nullable)) = [("Int", true)] := by decide +kernel

end MV.C06
