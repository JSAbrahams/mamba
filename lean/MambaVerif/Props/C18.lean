/-
C18 — Token positions are exact and indentation tokens are balanced.
Property theorems about the lexer model (`Model/Lex.lean`); helper lemmas live in `Lemmas/`.
All statements quantify over every input text `s` and every lexer `nested` for interpolated
expressions (hence in particular the real recursive one, `tokenize`).
-/
import MambaVerif.Lemmas.LexDoc
import MambaVerif.Lemmas.LexSpan

namespace MV.C18

open MV

/-- Spec: the running indentation depth never goes negative and is zero at the end. -/
def Balanced (toks : List Lex) : Prop := bal 0 toks = some 0

/-- Spec: the stream ends with an end-of-file token and contains exactly one. -/
def EofSingle (toks : List Lex) : Prop :=
  toks.getLast?.map Lex.kind = some .Eof ∧ (toks.filter (fun l => l.kind == .Eof)).length = 1

theorem flush_bal (st : LState) : bal (LState.level st.curIndent) st.flushIndents = some 0 := by
  unfold LState.flushIndents
  rw [bal_replicate_dedent _ _ _ (Nat.le_refl _), Nat.sub_self]

theorem flush_noEof (st : LState) : NoEof st.flushIndents := by
  intro l hl
  rw [(List.mem_replicate.mp hl).2]; exact (by decide : Kind.Dedent ≠ .Eof)

/-- an accepted text: the token stream is the doc-string pass over the tokens of the main loop and the
    flushed dedents, followed by the end-of-file token -/
theorem tokenizeWith_ok {nested : List Char → LexRes (List Lex)} {s : List Char} {toks : List Lex}
    (h : tokenizeWith nested s = .ok toks) :
    ∃ (toks0 : List Lex) (st : LState), bal 0 toks0 = some (LState.level st.curIndent) ∧ NoEof toks0 ∧
      toks = docSpec (toks0 ++ st.flushIndents) ++ [Lex.new (eofPos (toks0 ++ st.flushIndents)) Kind.Eof.tok] := by
  unfold tokenizeWith at h
  split at h <;> cases h
  rename_i toks0 st hr
  obtain ⟨b, -, e⟩ := run_inv nested s 0 LState.init hr (fun _ hl => nomatch hl)
  exact ⟨toks0, st, b, e, by rw [docPass_eq_docSpec, docSpec_concat _ (by simp)]⟩

/-- every indent is matched by a dedent before end of input, for every input the lexer accepts -/
theorem indent_balanced_with (nested : List Char → LexRes (List Lex)) (s : List Char) (toks : List Lex)
    (h : tokenizeWith nested s = .ok toks) : Balanced toks := by
  obtain ⟨toks0, st, b, -, rfl⟩ := tokenizeWith_ok h
  unfold Balanced
  rw [bal_append, docSpec_bal, bal_append, b, Option.bind_some, flush_bal, Option.bind_some]
  rfl

theorem indent_balanced (s : List Char) (toks : List Lex) (h : tokenize s = .ok toks) : Balanced toks :=
  indent_balanced_with _ s toks h

theorem filter_eof_of_noEof {ls : List Lex} (h : NoEof ls) : ls.filter (fun l => l.kind == .Eof) = [] :=
  List.filter_eq_nil_iff.mpr fun l hl => by simpa using h l hl

/-- the stream ends with a single end-of-file token -/
theorem eof_single_with (nested : List Char → LexRes (List Lex)) (s : List Char) (toks : List Lex)
    (h : tokenizeWith nested s = .ok toks) : EofSingle toks := by
  obtain ⟨toks0, st, -, e, rfl⟩ := tokenizeWith_ok h
  constructor
  · rw [List.getLast?_concat]; rfl
  · rw [List.filter_append, docSpec_filter (· == .Eof) rfl rfl, List.filter_append, filter_eof_of_noEof e,
      filter_eof_of_noEof (flush_noEof st)]
    rfl

theorem eof_single (s : List Char) (toks : List Lex) (h : tokenize s = .ok toks) : EofSingle toks :=
  eof_single_with _ s toks h

/-- **spans_exact**: for every text the main loop of the lexer accepts (and every lexer `nested` for
    interpolated expressions), (i) the caret ends at the start caret advanced over the whole text, and
    (ii) every token that carries source text — every token except the synthesised `NL`, `Indent`,
    `Dedent` — is EXACTLY a slice of the text: the text splits as `pre ++ mid ++ post` with the token's
    `Display` text equal to `mid`, its start equal to the start caret advanced over `pre`, and its end equal
    to the start caret advanced over `pre ++ mid` (`CaretPos::advance_over`: a line feed starts a new
    line, every other character one column).  Identifiers, keywords, operators, numbers (also E-notation),
    strings (multi-line, non-ASCII, with interpolations), and comments are all covered; CRLF counts as one
    line break. -/
theorem spans_exact (nested : List Char → LexRes (List Lex)) (s : List Char) (toks : List Lex) (st : LState)
    (h : run nested s 0 LState.init = .ok (toks, st)) :
    st.pos = CaretPos.start.advanceOver s ∧ ∀ l ∈ toks, Lexical l → SpanOf CaretPos.start s l :=
  run_spans nested s 0 LState.init (Nat.zero_le _) h (fun _ hl => nomatch hl)

/-- the dedents flushed at the end of input carry no text (they are not `Lexical`) -/
theorem flush_not_lexical (st : LState) : ∀ l ∈ st.flushIndents, ¬ Lexical l :=
  fun l hl hlex => hlex.2.2.1 (by rw [(List.mem_replicate.mp hl).2]; rfl)

/-! ### Non-vacuity -/

def okWith (r : LexRes (List Lex)) (p : List Lex → Bool) : Bool :=
  match r with | .ok t => p t | _ => false

theorem okWith_spec {r : LexRes (List Lex)} {p : List Lex → Bool} (h : okWith r p = true) :
    ∃ toks, r = .ok toks ∧ p toks = true := by
  unfold okWith at h; split at h
  · exact ⟨_, rfl, h⟩
  · exact absurd h (by simp)

/-- a concrete indented source is accepted and has an indent and a dedent in its stream
    (`if a⏎    b⏎  c`), so the hypotheses of `indent_balanced` and `eof_single` are met by non-trivial inputs -/
example : ∃ toks, tokenize ['i', 'f', ' ', 'a', '\n', ' ', ' ', ' ', ' ', 'b', '\n', ' ', ' ', 'c'] = .ok toks
    ∧ ((toks.filter (fun l => l.kind == .Indent)).length == 1
       && (toks.filter (fun l => l.kind == .Dedent)).length == 1) = true :=
  okWith_spec (by decide +kernel)

/-- a text with a multi-line, non-ASCII, interpolated string and a comment is accepted by the
    main loop (so `spans_exact` applies to it), and a `Str` token is lexical -/
example : okWith (match run (tokenizeDirect 20)
      ['x', ' ', ':', '=', ' ', '"', 'é', '\n', '{', 'y', '}', '"', ' ', '#', ' ', 'c', '\r', '\n', 'z'] 0 LState.init with
    | .ok (toks, _) => .ok toks | .err p => .err p | .panic n => .panic n)
    (fun toks => toks.any (fun l => l.kind == .Str)) = true := by decide +kernel
example : Lexical (Lex.new CaretPos.start ⟨.Str, ['"', '"']⟩) := by
  simp [Lexical, Lex.kind, Lex.new, Lex.tok]

end MV.C18
