/-
C19 — Diagnostics are well-formed and point into the offending file and line (renderer).

On the model of `format_location` / `format_err` (Model/Diag.lean), for every message, position,
source text and cause list:
* `render_no_panic` — rendering succeeds whenever the position is invisible or its start column is
  ≥ 1 (the only arithmetic that can underflow is `pos.start.pos - 1`); with `lex_positions_ge_one`
  every position built from lexer tokens satisfies this;
* `render_quotes_verbatim` — when the source has a non-empty line with the reported number, the
  rendering contains exactly that line, prefixed by its number;
* `caret_under_column` — the caret run starts under the reported column and is as wide as the span.
The negation for an EMPTY reported line is proved on a witness (`empty_line_witness`: the line is
shown as `<unknown>`), recorded as a known limitation of this property.
That every rejection carries a diagnostic with the right file and a position on the faulty line is
decided by the oracle of the check on single-fault mutants.
-/
import MambaVerif.Model.Diag
namespace MV.C19
open MV

/-- **render_no_panic** (location) -/
theorem location_no_panic (offset : Nat) (msg : Option String) (pos : DPos) (src : Option String)
    (h : pos = DPos.invisible ∨ pos.c1 ≥ 1) : (formatLocation offset msg pos src).isSome = true := by
  unfold formatLocation
  split
  · rfl
  · unfold locParts; rw [if_neg (by have := h.resolve_left ‹_›; omega)]; rfl

theorem cause_no_panic (pos : Option DPos) (src : Option String) (first : Bool) (c : DCause)
    (h : c.pos = DPos.invisible ∨ c.pos.c1 ≥ 1) : (causeText pos src first c).isSome = true := by
  unfold causeText
  split
  · exact location_no_panic 1 _ c.pos src h
  · rfl

/-- the first cause rendered in full (the others are one-liners) never panics either -/
theorem causes_no_panic (pos : Option DPos) (src : Option String) (causes : List DCause) (first : Bool)
    (h : ∀ c ∈ causes, c.pos = DPos.invisible ∨ c.pos.c1 ≥ 1) : (causesText pos src causes first).isSome = true := by
  induction causes generalizing first with
  | nil => rfl
  | cons c rest ih =>
    obtain ⟨hc, hr⟩ := List.forall_mem_cons.mp h
    obtain ⟨a, ha⟩ := Option.isSome_iff_exists.mp (cause_no_panic pos src first c hc)
    obtain ⟨b, hb⟩ := Option.isSome_iff_exists.mp (ih false hr)
    rw [causesText, ha, hb]; rfl

/-- **render_no_panic**: rendering a diagnostic never fails when every position it carries is
    invisible or has a start column ≥ 1 -/
theorem render_no_panic (msg : String) (path : Option String) (pos : Option DPos) (src : Option String)
    (causes : List DCause) (hp : ∀ p, pos = some p → p = DPos.invisible ∨ p.c1 ≥ 1)
    (hc : ∀ c ∈ causes, c.pos = DPos.invisible ∨ c.pos.c1 ≥ 1) :
    (formatErr msg path pos src causes).isSome = true := by
  obtain ⟨b, hb⟩ := Option.isSome_iff_exists.mp (causes_no_panic pos src causes true hc)
  unfold formatErr
  cases pos with
  | none => simp [hb]
  | some p =>
    obtain ⟨loc, hl⟩ := Option.isSome_iff_exists.mp (location_no_panic 0 none p src (hp p rfl))
    simp [hb, hl]

/-- a source line that exists is quoted with its number, unless it is empty -/
theorem quoted_some {s line : String} {i : Nat} (shown offset : Nat) (h : (linesOf s)[i]? = some line) :
    quoted (some s) (some i) shown offset =
      if line.isEmpty then none else some (spaces (4 * offset) ++ pad4 shown ++ " | " ++ line ++ "\n") := by
  rw [quoted, h]

/-- **render_quotes_verbatim**: a non-empty reported line is quoted exactly, with its number -/
theorem render_quotes_verbatim (offset : Nat) (msg : Option String) (pos : DPos) (src line : String)
    (hc : pos.c1 ≥ 1) (hl : pos.l1 ≥ 1)
    (hline : (linesOf src)[pos.l1 - 1]? = some line) (hne : line.isEmpty = false) :
    (locParts offset msg pos (some src)).map LocParts.line =
      some (spaces (4 * offset) ++ pad4 pos.l1 ++ " | " ++ line ++ "\n") := by
  unfold locParts; rw [if_neg (by omega), Option.map_some, if_pos hl, quoted_some _ _ hline]
  simp [hne]

/-- **caret_under_column**: after the 7 columns of the line-number gutter the caret run starts
    `start.pos - 1` columns in (plus the indentation of a cause) and is `get_width` wide -/
theorem caret_under_column (offset : Nat) (msg : Option String) (pos : DPos) (src : Option String)
    (hc : pos.c1 ≥ 1) :
    (locParts offset msg pos src).map LocParts.caret =
      some ("       " ++ spaces (offset * 4 + pos.c1 - 1) ++ String.ofList (List.replicate pos.width '^') ++ "\n") := by
  unfold locParts; rw [if_neg (by omega)]; rfl

/-- the rendered location is the concatenation of its pieces -/
theorem location_text (offset : Nat) (msg : Option String) (pos : DPos) (src : Option String)
    (hv : pos ≠ DPos.invisible) :
    formatLocation offset msg pos src = (locParts offset msg pos src).map LocParts.text :=
  if_neg hv

theorem width_pos (p : DPos) : p.width ≥ 1 := Nat.le_max_left ..

/-- an EMPTY reported line is not quoted: it is shown as `<unknown>` (the guard `line.isEmpty = false`
    of `render_quotes_verbatim` is necessary; known limitation of this property) -/
theorem empty_line_unknown (offset : Nat) (msg : Option String) (pos : DPos) (src : String)
    (hc : pos.c1 ≥ 1) (hl : pos.l1 ≥ 1) (hline : (linesOf src)[pos.l1 - 1]? = some "") :
    (locParts offset msg pos (some src)).map LocParts.line = some "<unknown>\n" := by
  unfold locParts; rw [if_neg (by omega), Option.map_some, if_pos hl, quoted_some _ _ hline]
  rfl

/-- the position that makes rendering fail exists: a visible position whose start column is 0 -/
theorem column_zero_witness : formatLocation 0 none ⟨1, 0, 1, 3⟩ none = none := by decide

end MV.C19
