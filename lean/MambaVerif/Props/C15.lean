/-
C15 — renaming user identifiers commutes with transpilation.

What is proved here, for every name (no bound on length or spelling):

* `identifier_lexed_uniformly`: the lexer's character dispatch treats every legal name the same
  way: it yields an `Id` token whose payload is the whole spelling and consumes exactly the name;
  nothing but the keyword table can distinguish two names (`rename_preserves_token`).
* `id_payload_chars`: conversely an `Id` token only ever carries identifier characters, so the
  shadowing key `x@1` built by `format_var_map` (separator regenerated from builder.rs) can never
  coincide with a user-chosen name, and the key is injective in (name, offset)
  (`shadow_key_not_a_name`, `shadow_key_injective`).
* `fun_name_commutes`, `type_name_commutes`: the two spelling-indexed tables of the generate
  stage (regenerated from definition.rs and clss/mod.rs) are the identity outside their keys, so
  they commute with every renaming that avoids the keys.
* `undocumented_function_specials`, `type_table_collisions`: which keys are *not* documented
  language names — these are exactly the recorded known findings of this property (a definition
  named `size`, and the type table being applied to user names such as `Slice`/`slice`).

The end-to-end statement (verdict and output of `mamba_to_python`) is decided by the metamorphic
oracle of tools/props/c15.py on the implementation.
-/
import MambaVerif.Generated.NameTables
import MambaVerif.Lemmas.LexBasic
import Std.Data.String.ToNat

namespace MV.C15
open MV

/-- a legal user-chosen name: identifier start, identifier characters, not a keyword -/
structure Legal (c : Char) (more : List Char) : Prop where
  start : isIdStart c = true
  chars : ∀ d ∈ more, isIdChar d = true
  notKw : keywordTable.lookup (c :: more) = none

/-- The character dispatch on a legal name followed by a non-identifier character (or the end of
    the text): an `Id` token carrying the whole spelling; exactly the name is consumed. -/
theorem identifier_lexed_uniformly (nested : List Char → LexRes (List Lex)) (pos : CaretPos)
    (c : Char) (more tail : List Char) (h : Legal c more)
    (htail : ∀ d ∈ tail.head?, isIdChar d = false) :
    classify nested pos c (more ++ tail) = .tok ⟨.Id, c :: more⟩ [] more.length := by
  rw [classify_idStart nested pos h.start, takeWhile_stop h.chars htail]
  unfold asOpOrId
  rw [h.notKw]

/-- Renaming: two legal names in the same context give the same kind of token, each carrying its
    own spelling — the lexer cannot tell them apart in any other way. -/
theorem rename_preserves_token (nested : List Char → LexRes (List Lex)) (pos : CaretPos)
    (c c' : Char) (more more' tail : List Char) (h : Legal c more) (h' : Legal c' more')
    (htail : ∀ d ∈ tail.head?, isIdChar d = false) :
    classify nested pos c (more ++ tail) = .tok ⟨.Id, c :: more⟩ [] more.length ∧
    classify nested pos c' (more' ++ tail) = .tok ⟨.Id, c' :: more'⟩ [] more'.length :=
  ⟨identifier_lexed_uniformly nested pos c more tail h htail,
   identifier_lexed_uniformly nested pos c' more' tail h' htail⟩

/-- An `Id` token carries only identifier characters, and is never empty. -/
theorem id_payload_chars (nested : List Char → LexRes (List Lex)) (pos : CaretPos) (c : Char)
    (rest : List Char) (t : Tok) (nest : List (List Lex)) (n : Nat)
    (h : classify nested pos c rest = .tok t nest n) (hk : t.kind = .Id) :
    t.text ≠ [] ∧ ∀ d ∈ t.text, isIdChar d = true := by
  cases classify_spec h with
  | fixed hsp => cases hk; cases hsp
  | lf | crlf | comment | str => cases hk
  | num => exact absurd hk ((by decide : ∀ k ∈ [Kind.ENum, .Real, .Int], k ≠ .Id) _ (numTok_kind _))
  | id hc =>
    refine ⟨List.cons_ne_nil _ _, fun d hd => ?_⟩
    rcases List.mem_cons.mp hd with rfl | hd
    · show (isIdStart d || d.isDigit) = true
      rw [hc]; rfl
    · exact List.all_eq_true.mp List.all_takeWhile d hd

/-- `format_var_map` of builder.rs (separator regenerated) -/
def shadowKey (var : List Char) (offset : Nat) : List Char :=
  if offset = 0 then var else var ++ shadowSep ++ (toString offset).toList

theorem shadowSep_not_id : ∀ d ∈ shadowSep, isIdChar d = false := by decide
theorem shadowSep_nonempty : shadowSep ≠ [] := by decide

/-- A shadowing key with a non-zero offset is never the spelling of an identifier token: user
    names cannot collide with the checker's internal `x@1` names. -/
theorem shadow_key_not_a_name (var name : List Char) (offset : Nat) (ho : offset ≠ 0)
    (hname : ∀ d ∈ name, isIdChar d = true) : shadowKey var offset ≠ name := by
  intro e
  -- the first character of the separator occurs in the key and is not an identifier character
  have hs := List.head_mem shadowSep_nonempty
  have hmem : shadowSep.head shadowSep_nonempty ∈ name := by
    rw [← e, shadowKey, if_neg ho]
    exact List.mem_append_left _ (List.mem_append_right _ hs)
  exact absurd (hname _ hmem) (by rw [shadowSep_not_id _ hs]; decide)

/-- the variable is the longest identifier prefix of its key -/
theorem shadowKey_takeWhile {v : List Char} (o : Nat) (hv : ∀ d ∈ v, isIdChar d = true) :
    (shadowKey v o).takeWhile isIdChar = v := by
  unfold shadowKey
  split
  · have := takeWhile_stop (b := []) hv (fun _ h => nomatch h)
    rwa [List.append_nil] at this
  · rw [List.append_assoc]
    refine takeWhile_stop hv fun d hd => shadowSep_not_id d ?_
    rw [List.head?_append, List.head?_eq_some_head shadowSep_nonempty, Option.some_or] at hd
    cases hd; exact List.head_mem _

/-- The shadowing key is injective in (name, offset): two different variables, or two different
    shadowing generations of one variable, never share a key. -/
theorem shadow_key_injective (v v' : List Char) (o o' : Nat)
    (hv : ∀ d ∈ v, isIdChar d = true) (hv' : ∀ d ∈ v', isIdChar d = true)
    (h : shadowKey v o = shadowKey v' o') : v = v' ∧ o = o' := by
  have e : v = v' := by rw [← shadowKey_takeWhile o hv, h, shadowKey_takeWhile o' hv']
  subst e
  refine ⟨rfl, ?_⟩
  by_cases ho : o = 0 <;> by_cases ho' : o' = 0
  · rw [ho, ho']
  · rw [ho] at h; exact absurd h.symm (shadow_key_not_a_name v v o' ho' hv)
  · rw [ho'] at h; exact absurd h (shadow_key_not_a_name v v o ho hv)
  · unfold shadowKey at h
    rw [if_neg ho, if_neg ho'] at h
    exact Nat.repr_injective (String.toList_inj.mp (List.append_cancel_left h))

/-- `match spelling { key => value, …, other => other }` -/
def armLookup (arms : List (String × String)) (s : String) : String := (arms.lookup s).getD s

/-- name of an emitted function definition (`definition.rs`, FunDef arm) -/
def genFunName : String → String := armLookup funDefNameArms
/-- `concrete_to_python`, applied to every identifier the generator converts -/
def genTypeName : String → String := armLookup typeNameArms

/-- Outside the keys of its table a spelling-indexed renaming commutes with every renaming of
    user names that avoids the keys. -/
theorem arm_commutes (arms : List (String × String)) (ρ : String → String) (s : String)
    (h1 : arms.lookup s = none) (h2 : arms.lookup (ρ s) = none) :
    armLookup arms (ρ s) = ρ (armLookup arms s) := by
  unfold armLookup; rw [h1, h2]; rfl

theorem fun_name_commutes (ρ : String → String) (s : String)
    (h1 : funDefNameArms.lookup s = none) (h2 : funDefNameArms.lookup (ρ s) = none) :
    genFunName (ρ s) = ρ (genFunName s) := arm_commutes _ ρ s h1 h2

theorem type_name_commutes (ρ : String → String) (s : String)
    (h1 : typeNameArms.lookup s = none) (h2 : typeNameArms.lookup (ρ s) = none) :
    genTypeName (ρ s) = ρ (genTypeName s) := arm_commutes _ ρ s h1 h2

/-- a key that is mapped to itself is not observable -/
def effective (arms : List (String × String)) : List (String × String) := arms.filter (fun p => p.1 != p.2)

theorem arm_identity_off_effective (arms : List (String × String)) (s : String)
    (h : ∀ p ∈ effective arms, p.1 ≠ s) :
    armLookup arms s = s := by
  unfold armLookup
  cases hl : arms.lookup s with
  | none => rfl
  | some v =>
    -- the entry `(s, v)` is not an effective one
    refine Decidable.byContradiction fun hne => h (s, v) (List.mem_filter.mpr ⟨lookup_mem hl, ?_⟩) rfl
    exact bne_iff_ne.mpr fun e => hne e.symm

/-- Function names the language documents as special (constructor, operator methods are handled
    by `CoreFunOp::from`, property C17). -/
def documentedFunNames : List String := ["__init__", "init"]
/-- Type names of the language (`check/context/clss/mod.rs` constants that name a built-in type):
    they are not user-chosen names. -/
def languageTypes : List String :=
  ["Int", "Float", "Str", "Bool", "Complex", "Collection", "Range", "Slice", "Set", "List", "Tuple",
   "Dict", "Callable", "None", "Exception", "Union", "Any"]

/-- WITNESS (known finding `definition-named-size`, the defect of C17's `method-named-size`): the function-name table renames a spelling the
    language does not document — a definition called `size` is emitted as `__size__` while its
    call sites keep `size`. -/
theorem undocumented_function_specials :
    ((effective funDefNameArms).map (·.1)).filter (fun s => !documentedFunNames.contains s) = ["size"] := by
  decide +kernel

/-- WITNESS (known finding `type-table-on-user-names`): the type-name table is applied to every
    identifier, and it is not injective on names a user may choose: the user names `Slice` and
    `slice` are both emitted as `slice`; `Enum` is not a language type yet it is rewritten. -/
theorem type_table_collisions :
    genTypeName "Slice" = genTypeName "slice" ∧ "Slice" ≠ "slice" ∧
    ((effective typeNameArms).map (·.1)).filter (fun s => !languageTypes.contains s) = ["Enum"] := by
  decide +kernel

/-- Apart from the witnesses above, every name is emitted unchanged by both tables. -/
theorem ordinary_names_unchanged (s : String) (h1 : s ≠ "size")
    (h2 : ∀ p ∈ effective typeNameArms, p.1 ≠ s) : genFunName s = s ∧ genTypeName s = s := by
  refine ⟨arm_identity_off_effective _ _ fun p hp => ?_, arm_identity_off_effective _ _ h2⟩
  have e : effective funDefNameArms = [("size", "__size__")] := by decide +kernel
  rw [e] at hp
  cases List.mem_singleton.mp hp
  exact h1.symm

/-- non-vacuity: an ordinary name meets the hypotheses -/
example : genFunName "total_count" = "total_count" ∧ genTypeName "total_count" = "total_count" :=
  ordinary_names_unchanged "total_count" (by decide) (by decide +kernel)

example : Legal 's' "ize".toList := ⟨by decide +kernel, by decide +kernel, by decide +kernel⟩
example : Legal 'm' "ath".toList := ⟨by decide +kernel, by decide +kernel, by decide +kernel⟩

end MV.C15
