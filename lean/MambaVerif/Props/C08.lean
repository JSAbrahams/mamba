/-
C08 — Explicit error handling: raises must be declared or handled.

On the model of the generate stage's `raises_caught` discipline (Model/Scope.lean: the arms of a
`handle` cover the handled expression only; a function body is checked under its declared classes;
top-level code is unchecked) and the dynamic semantics of the emitted `try/except` (first matching
`except` clause by class ancestry):
* `accepted_body_raises_declared` — whatever path execution takes, an exception that escapes an
  accepted function body is a subclass of a class the function declares; in particular an accepted
  body with an empty declaration lets nothing escape;
* `uncovered_raise_rejected`, `uncovered_call_rejected` — a `raise E` / a call of a function declaring
  `E` with no ancestor of `E` caught or declared is an error;
* `arms_not_covered_by_own_handle` — the arms of a handle are checked under the caught set from
  before the handle (the defect repaired for this property).
Method calls are outside the model: the checker does not look at the raises of a method's callee
(recorded known finding).
-/
import MambaVerif.Lemmas.ScopeSound

namespace MV.C08

open MV.SL

theorem accepted_body_raises_declared (par : Parents) (h : Nat) (rs : Raises) (htrans : FuelSuffices par h)
    (params : List (Name × Bool)) (declared : List Cls) (body : Stmt) (σ : List Name) (c : Cls)
    (hacc : (checkS par h rs ⟨params, declared, true⟩ body).1 = [])
    (hbound : Sub ⟨params, declared, true⟩ σ) (hex : Exec par h rs σ body (.raised c)) :
    ∃ d ∈ declared, isAncestor par h d c = true :=
  have hcov : Covered par h ⟨params, declared, true⟩ c := soundS par h rs htrans hex _ hbound hacc
  hcov rfl

/-- nothing escapes an accepted body that declares nothing -/
theorem accepted_body_without_raises (par : Parents) (h : Nat) (rs : Raises) (htrans : FuelSuffices par h)
    (params : List (Name × Bool)) (body : Stmt) (σ : List Name) (c : Cls)
    (hacc : (checkS par h rs ⟨params, [], true⟩ body).1 = []) (hbound : Sub ⟨params, [], true⟩ σ) :
    ¬ Exec par h rs σ body (.raised c) := by
  intro hex
  obtain ⟨d, hd, _⟩ := accepted_body_raises_declared par h rs htrans params [] body σ c hacc hbound hex
  exact List.not_mem_nil hd

theorem uncovered_raise_rejected (par : Parents) (h : Nat) (rs : Raises) (Γ : SEnv) (c : Cls)
    (hin : Γ.inFun = true) (hno : ∀ d ∈ Γ.caught, isAncestor par h d c = false) :
    (checkS par h rs Γ (.raiseS c)).1 = [.raise c] := by
  have hn : (Γ.caught.any fun d => isAncestor par h d c) = false :=
    List.any_eq_false.mpr fun d hd => Bool.eq_false_iff.mp (hno d hd)
  show uncaught par h Γ [c] = _
  simp [uncaught, hin, hn]

theorem uncovered_call_rejected (par : Parents) (h : Nat) (rs : Raises) (Γ : SEnv) (f : Name) (arg : Expr) (c : Cls)
    (hin : Γ.inFun = true) (hc : c ∈ rs f) (hno : ∀ d ∈ Γ.caught, isAncestor par h d c = false) :
    .raise c ∈ checkE par h rs Γ (.call f arg) :=
  List.mem_append_right _ (mem_uncaught.mpr ⟨c, hc, not_covered hin hno, rfl⟩)

/-- top-level code is not checked for raises -/
theorem top_level_unchecked (par : Parents) (h : Nat) (rs : Raises) (Γ : SEnv) (cs : List Cls) (hout : Γ.inFun = false) :
    uncaught par h Γ cs = [] := by
  simp [uncaught, hout]

/-- the handled expression is checked under the arms' classes, the arms themselves under the caught set
    from before the handle -/
theorem arms_not_covered_by_own_handle (par : Parents) (h : Nat) (rs : Raises) (Γ : SEnv) (e : Expr) (arms : Arms) :
    checkE par h rs Γ (.handle e arms) =
      checkE par h rs { Γ with caught := armClasses arms ++ Γ.caught } e ++ checkArms par h rs Γ arms :=
  rfl

/-! Non-vacuity: with `E2 <: E1`, a body `raise E2` is accepted when `E1` is declared and rejected
    when nothing is; a raise inside the arm of a handle for the same class is rejected. -/
def par2 : Parents := fun c => if c = 2 then some 1 else none
example : (checkS par2 2 (fun _ => []) ⟨[], [1], true⟩ (.raiseS 2)).1 = [] := by decide +kernel
example : (checkS par2 2 (fun _ => []) ⟨[], [], true⟩ (.raiseS 2)).1 = [.raise 2] := by decide +kernel
example : checkE par2 2 (fun f => if f = 7 then [2] else []) ⟨[], [], true⟩
    (.handle (.call 7 .lit) (.cons 1 9 (.raiseS 2) .nil)) = [.raise 2] := by decide +kernel
example : FuelSuffices par2 2 := by
  -- class 1 above class 2 is the only proper ancestry
  have key : ∀ a c, isAncestor par2 2 a c = true ↔ a = c ∨ (a = 1 ∧ c = 2) := by
    intro a c
    by_cases hc : c = 2 <;> simp [isAncestor, par2, hc]
  intro a b c h1 h2
  rw [key] at h1 h2 ⊢
  rcases h1 with rfl | ⟨rfl, rfl⟩
  · exact h2
  · rcases h2 with rfl | ⟨h, -⟩
    · exact .inr ⟨rfl, rfl⟩
    · exact absurd h (by decide)

end MV.C08
