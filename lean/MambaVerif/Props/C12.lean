/-
C12 — Determinism (class member order; name lattice order independence is C20.order_indep).

`extract_class` keeps the converted members of a class in a `HashMap` and sorts them by
`(position, rank)`; the map's iteration order is arbitrary and differs from run to run.  Theorem:
whatever the iteration order, the emitted order is the same — because the sort key is injective on
the members of a class (`keys_distinct`).  Offsets and ranks are regenerated from `class.rs`: without
the tie-breaking rank (the defect repaired for this property: every rank equal) `rank_facts` fails.
-/
import MambaVerif.Model.ClassOrder

namespace MV.C12

open MV

/-- the facts about the regenerated constants that make the key injective -/
theorem rank_facts : rankFun ≠ rankVar ∧ rankFun ≠ rankOther ∧ rankInit ≠ rankVar ∧ rankInit ≠ rankOther ∧
    rankInit ≠ rankFun ∧ classVarOffset = classOtherOffset := by decide

/-- `Entry.le` is the lexicographic order on the key `(pos, rank)` -/
theorem le_iff (a b : Entry) : Entry.le a b = true ↔ a.pos < b.pos ∨ a.pos = b.pos ∧ a.rank ≤ b.rank := by
  simp [Entry.le]

theorem le_trans (a b c : Entry) (h1 : Entry.le a b = true) (h2 : Entry.le b c = true) : Entry.le a c = true := by
  rw [le_iff] at *; omega

theorem le_total (a b : Entry) : (Entry.le a b || Entry.le b a) = true := by
  rw [Bool.or_eq_true, le_iff, le_iff]; omega

/-- sorting by a total preorder forgets the order of the input as soon as the preorder is antisymmetric
    on the elements of the input -/
theorem mergeSort_eq_of_perm {α : Type _} {le : α → α → Bool} (trans : ∀ a b c, le a b → le b c → le a c)
    (total : ∀ a b, le a b || le b a) {l1 l2 : List α} (hp : l1.Perm l2)
    (anti : ∀ a ∈ l1, ∀ b ∈ l1, le a b → le b a → a = b) : l1.mergeSort le = l2.mergeSort le :=
  List.Perm.eq_of_pairwise (le := fun a b => le a b)
    (fun a b ha hb => anti a (List.mem_mergeSort.mp ha) b (hp.symm.subset (List.mem_mergeSort.mp hb)))
    (List.pairwise_mergeSort trans total l1) (List.pairwise_mergeSort trans total l2)
    ((List.mergeSort_perm l1 _).trans (hp.trans (List.mergeSort_perm l2 _).symm))

/-- two storage orders of the same entries are emitted identically as soon as
    no two entries share a sort key -/
theorem sorted_unique (l1 l2 : List Entry) (hp : l1.Perm l2)
    (hd : ∀ a ∈ l1, ∀ b ∈ l1, a.pos = b.pos → a.rank = b.rank → a = b) : emitted l1 = emitted l2 :=
  mergeSort_eq_of_perm le_trans le_total hp fun a ha b hb hab hba => by
    rw [le_iff] at hab hba
    exact hd a ha b hb (by omega) (by omega)

/-- a body as the conversion produces it: statement `i` stands at index `i`; at most one `init` -/
def WellFormed (body : List Member) : Prop :=
  (∀ m ∈ body, ∀ m' ∈ body, m.idx = m'.idx → m = m') ∧
  (∀ m ∈ body, ∀ m' ∈ body, m.kind = .init → m'.kind = .init → m = m') ∧
  (∀ m ∈ body, m.idx < body.length)

/-- a member's position is its index plus an offset that depends on its rank only: `rank_facts` tells the
    kinds with the function offset (`fn`, `init`) from the other two, which share theirs -/
theorem pos_eq_idx_add : ∃ off : Nat → Nat, ∀ m : Member, m.pos = m.idx + off m.kind.rank := by
  obtain ⟨h1, h2, h3, h4, -, h6⟩ := rank_facts
  refine ⟨fun r => if r = rankFun ∨ r = rankInit then classFunOffset else classVarOffset, fun ⟨i, k, _⟩ => ?_⟩
  cases k <;> simp [Member.pos, MKind.rank, h1.symm, h2.symm, h3.symm, h4.symm, h6]

theorem idx_eq_of_key_eq {m m' : Member} (hp : m.pos = m'.pos) (hr : m.kind.rank = m'.kind.rank) :
    m.idx = m'.idx := by
  obtain ⟨off, h⟩ := pos_eq_idx_add
  rw [h, h, hr] at hp
  exact Nat.add_right_cancel hp

/-- no member other than a constructor has the rank of the synthesised constructor -/
theorem rank_ne_rankInit {k : MKind} (h : k ≠ .init) : k.rank ≠ rankInit := by
  obtain ⟨-, -, h3, h4, h5, -⟩ := rank_facts
  match k with
  | .var => exact h3.symm
  | .other => exact h4.symm
  | .fn => exact h5.symm
  | .init => exact absurd rfl h

/-- the key is injective as soon as the index is: the other two parts of `WellFormed` are not needed -/
theorem keys_distinct_of_idx (body : List Member) (newInit : Bool)
    (hidx : ∀ m ∈ body, ∀ m' ∈ body, m.idx = m'.idx → m = m') :
    ∀ a ∈ entries body newInit, ∀ b ∈ entries body newInit, a.pos = b.pos → a.rank = b.rank → a = b := by
  have key : ∀ m ∈ body, ∀ m' ∈ body, (Entry.ofMember m).pos = (Entry.ofMember m').pos →
      (Entry.ofMember m).rank = (Entry.ofMember m').rank → Entry.ofMember m = Entry.ofMember m' :=
    fun m hm m' hm' hp hr => by rw [hidx m hm m' hm' (idx_eq_of_key_eq hp hr)]
  intro a ha b hb hp hr
  cases newInit with
  | true =>
    -- the members that are no constructor, and the synthesised constructor: told apart by the rank
    simp only [entries, if_true, List.mem_append, List.mem_map, List.mem_filter, List.mem_singleton,
      decide_eq_true_eq] at ha hb
    rcases ha with ⟨m, ⟨hm, hk⟩, rfl⟩ | rfl <;> rcases hb with ⟨m', ⟨hm', hk'⟩, rfl⟩ | rfl
    · exact key m hm m' hm' hp hr
    · exact absurd hr (rank_ne_rankInit hk)
    · exact absurd hr.symm (rank_ne_rankInit hk')
    · rfl
  | false =>
    simp only [entries, Bool.false_eq_true, if_false, List.mem_map] at ha hb
    obtain ⟨m, hm, rfl⟩ := ha
    obtain ⟨m', hm', rfl⟩ := hb
    exact key m hm m' hm' hp hr

/-- **keys_distinct**: the sort key `(position, rank)` is injective on the members of a class -/
theorem keys_distinct (body : List Member) (newInit : Bool) (hw : WellFormed body) :
    ∀ a ∈ entries body newInit, ∀ b ∈ entries body newInit, a.pos = b.pos → a.rank = b.rank → a = b :=
  keys_distinct_of_idx body newInit hw.1

/-- **class_body_order_perm**: the emitted member order does not depend on the iteration order of
    the map the members are stored in -/
theorem class_body_order_perm (body : List Member) (newInit : Bool) (hw : WellFormed body)
    (stored : List Entry) (hs : stored.Perm (entries body newInit)) :
    emitted stored = emitted (entries body newInit) :=
  sorted_unique stored _ hs (fun a ha b hb => keys_distinct body newInit hw a (hs.subset ha) b (hs.subset hb))

/-! Non-vacuity: the colliding shape of the repaired defect — methods at index 0 and 1, a field at
    index 2 (position 2 twice): both storage orders give methods' and field's order alike. -/
def sampleBody : List Member := [⟨0, .fn, "m0"⟩, ⟨1, .fn, "m1"⟩, ⟨2, .var, "x"⟩]
example : WellFormed sampleBody := by
  unfold WellFormed; decide +kernel
/-- on that body the method at index 0 and the field at index 2 do share a position: the rank decides -/
example : (Entry.ofMember ⟨0, .fn, "m0"⟩).pos = (Entry.ofMember ⟨2, .var, "x"⟩).pos ∧
    (Entry.ofMember ⟨0, .fn, "m0"⟩).rank ≠ (Entry.ofMember ⟨2, .var, "x"⟩).rank := by decide

end MV.C12
