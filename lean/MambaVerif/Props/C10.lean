/-
C10 — Printed expressions keep their structure.

`pr` is the model of the Rust printer `to_py` (tokens; `renderToks` gives the text, compared with
`format!("{core}")` on every run); its operator spellings, `prec`, `sides` and ternary minima are
REGENERATED from `/repo/src/generate/ast/mod.rs`.  `parse` is the Python 3 expression grammar
(spec side, validated against CPython's `ast.parse` on every run).  The theorem: for every
expression of the printer's language (`full`) the Python grammar parses the printed tokens back to
exactly the tree the expression denotes — each operator keeps the operands it had.  The statements
about the operator fragment (`frag`: names, literals, all 23 binary and 4 unary operators, any
nesting, any depth) are its instances.

The table facts the proof consumes (`prec_eq_level`, `sides_levels`, `prefixForm_uop*`,
`un_prec_cases` in Lemmas/PyRound.lean) are re-checked against the regenerated table at every build:
a change of the Rust precedence table that loses grouping makes them fail.
-/
import MambaVerif.Lemmas.PyFull

namespace MV.C10

open MV

/-- **print_parse_roundtrip_full**: for all sufficient fuel, parsing the printed tokens as a Python
    `expression` consumes them all and yields `⌜e⌝`, for the whole expression language of the printer —
    the operators, conditional expressions, lambdas, calls, attribute access and method calls, subscripts, `isinstance`,
    `math.sqrt`, E-notation, tuple/list/set displays, nested in any way with the operators.  `full`
    excludes exactly: tuples with fewer than two elements and the empty set display (for which the
    statement is FALSE: `(x)` is `x` and `{}` is a dictionary in Python — see the witnesses below),
    properties that are neither a name nor a call of a name, and lambda parameters that are not names. -/
theorem print_parse_roundtrip_full (e : CE) (he : full e = true) :
    Ev (fun fuel => parse fuel 1 (pr e)) (embed e, []) := by
  simpa [operand_unfold] using operand_roundtrip_full e he 0 [] (stop_nil 2)

theorem roundtrip_unique_full (e : CE) (he : full e = true) (x : PyAst × List PTok)
    (hx : Ev (fun fuel => parse fuel 1 (pr e)) x) : x = (embed e, []) :=
  Ev.unique hx (print_parse_roundtrip_full e he)

/-- the operator fragment is part of the full language -/
theorem frag_full : (e : CE) → frag e = true → full e = true
  | .atom _, _ => rfl
  | .int _, _ => rfl
  | .bin _ l r, h =>
    have h' := Bool.and_eq_true_iff.1 h
    Bool.and_eq_true_iff.2 ⟨frag_full l h'.1, frag_full r h'.2⟩
  | .un _ x, h => frag_full x h
  | .enum _ _, h | .ternary _ _ _, h | .lambda _ _, h | .call _ _, h | .attr _ _, h | .index _ _, h
  | .isA _ _, h | .sqrt _, h | .tuple _, h | .list _, h | .set _, h => nomatch h

/-- **print_parse_roundtrip**: the same, stated for the operator fragment -/
theorem print_parse_roundtrip (e : CE) (he : frag e = true) :
    Ev (fun fuel => parse fuel 1 (pr e)) (embed e, []) :=
  print_parse_roundtrip_full e (frag_full e he)

/-- the parse is a function of the tokens: no other tree can be obtained, whatever the fuel -/
theorem roundtrip_unique (e : CE) (he : frag e = true) (x : PyAst × List PTok)
    (hx : Ev (fun fuel => parse fuel 1 (pr e)) x) : x = (embed e, []) :=
  roundtrip_unique_full e (frag_full e he) x hx

/-- printed as an operand of any required strength, the expression still parses back as a unit
    (explicit parentheses and the grouping chosen by the Mamba parser are never lost) -/
theorem operand_roundtrip (e : CE) (he : frag e = true) (min : Nat) :
    Ev (fun fuel => parse fuel 1 (operand e min)) (embed e, []) := by
  simpa using operand_roundtrip_full e (frag_full e he) min [] (stop_nil 2)

/-- **builder_conditions_roundtrip**: the `if` clause the printer builds for a list, set or dictionary
    builder — `operand(c, PREC_NOT)` for every condition, joined with `and` (the minimum is REGENERATED
    from the Rust source as `precCompCond`) — parses, at the grammar level Python prescribes for a
    comprehension condition (`disjunction`), to the conjunction of the conditions, each condition intact
    as one operand, whatever the conditions are (`or`, conditional expressions, lambdas, …).  `rest` is
    whatever follows the clause (a closing bracket, a further `for`): it must not continue an
    expression at the `or` level or above. -/
theorem builder_conditions_roundtrip (c : CE) (cs : List CE) (hc : full c = true) (hcs : fullAll cs = true)
    (rest : List PTok) (hstop : Stop 3 rest) :
    Ev (fun fuel => parse fuel 3 (condChain (c :: cs) ++ rest)) (andFold (embed c) cs, rest) :=
  condChain_S c cs (S_all2 c hc) (S_list cs hcs) rest hstop

/-- non-vacuity: `[... if (a or b) and (x if c else y) and not z]` meets the hypotheses, and the closing
    bracket stops every level -/
example : full (.bin .Or (.atom "a") (.atom "b")) = true ∧
    fullAll [.ternary (.atom "c") (.atom "x") (.atom "y"), .un .Not (.atom "z")] = true ∧ Stop 3 [PTok.rbr] :=
  ⟨by decide, by decide, stop_of_none .rbr [] 3 rfl⟩

/-- WITNESS that the exclusion of one-element tuples is necessary: the printed form of the tuple `(x,)`
    is `(x)`, which the grammar parses as the bare name. -/
theorem one_tuple_witness :
    Ev (fun fuel => parse fuel 1 (pr (.tuple [.atom "x"]))) (.name "x", []) ∧
      embed (.tuple [.atom "x"]) ≠ .name "x" := by
  constructor
  · have h := operand_roundtrip (.atom "x") rfl 16
    have e : operand (.atom "x") 16 = pr (.tuple [.atom "x"]) := by
      simp [operand_unfold, CE.prec, precAtom_eq, pr_tuple, pr_atom, parens, commaSep, prAll]
    rw [e] at h
    simpa [embed] using h
  · simp [embed, embedAll]

/-! Non-vacuity of the full statement: `f(a if c else b, lambda x: x + 1)[i].m(y) ** 2`, `(a, b if c else d)`. -/
example : full (.bin .Pow (.attr (.index (.call (.atom "f") [.ternary (.atom "c") (.atom "a") (.atom "b"),
    .lambda [.atom "x"] (.bin .Add (.atom "x") (.int "1"))]) (.atom "i")) (.call (.atom "m") [.atom "y"])) (.int "2")) = true := by
  decide
example : full (.tuple [.atom "a", .ternary (.atom "c") (.atom "b") (.atom "d")]) = true := by decide

/-! Non-vacuity: `a - (b - c)`, `-(a * b) ** c`, `not (a == b) and c` are in the fragment. -/
example : frag (.bin .Sub (.atom "a") (.bin .Sub (.atom "b") (.atom "c"))) = true := by decide
example : frag (.bin .Pow (.un .SubU (.bin .Mul (.atom "a") (.atom "b"))) (.atom "c")) = true := by decide
example : frag (.bin .And (.un .Not (.bin .Eq (.atom "a") (.atom "b"))) (.atom "c")) = true := by decide

end MV.C10
