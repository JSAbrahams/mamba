/-
C09 — Definite assignment: no read of a possibly undefined variable.

`checkS`/`checkE` (Model/Scope.lean) is the model of the generate stage's name discipline: persistent
environments, so a definition is visible to the later statements of its own block only (branches,
loop bodies and handler arms hand the incoming environment back).  `Exec`/`Eval` is the dynamic
semantics of the emitted Python for the same constructs, where a name stays bound once assigned
(function-level scope) and every choice of branch and number of loop iterations is possible.
Theorem `no_undefined_read`: a block accepted in an environment whose names are bound never reaches
a read of an unbound name (no NameError / UnboundLocalError), whatever path execution takes.
The model is tied to the code by a verdict-class correspondence on generated programs and
single-fault mutants (undefined, later-defined, branch-local, loop-local, arm-local uses).
Not in the model (recorded in DESIGN.md): use of top-level functions/classes before their
definition, class-level fields read as bare names in methods, reassignment of a global inside a function.
-/
import MambaVerif.Lemmas.ScopeSound
import MambaVerif.Lemmas.CtorAssign
import MambaVerif.Lemmas.CtorComplete

namespace MV.C09

open MV.SL

theorem no_undefined_read (par : Parents) (h : Nat) (rs : Raises) (htrans : FuelSuffices par h)
    (Γ : SEnv) (σ : List Name) (s : Stmt) (o : Out)
    (hacc : (checkS par h rs Γ s).1 = []) (hbound : Sub Γ σ) (hex : Exec par h rs σ s o) :
    ∀ x, o ≠ .unbound x := by
  intro x hx
  subst hx
  exact soundS par h rs htrans hex Γ hbound hacc

/-- a whole program's top-level code, started with nothing bound -/
theorem program_no_undefined_read (par : Parents) (h : Nat) (rs : Raises) (htrans : FuelSuffices par h)
    (s : Stmt) (o : Out) (hacc : (checkS par h rs ⟨[], [], false⟩ s).1 = []) (hex : Exec par h rs [] s o) :
    ∀ x, o ≠ .unbound x :=
  no_undefined_read par h rs htrans ⟨[], [], false⟩ [] s o hacc (fun _ hx => nomatch hx) hex

theorem undefined_read_rejected (par : Parents) (h : Nat) (rs : Raises) (Γ : SEnv) (x : Name)
    (hx : Γ.lookup x = none) : checkE par h rs Γ (.var x) = [.undefined x] := by
  rw [checkE_var, hx]
  rfl

/-- after `if`, `while`, `for` the next statement sees exactly the environment from before, so a name
    defined in one (or in both) branches is not visible afterwards -/
theorem branch_defs_do_not_escape (par : Parents) (h : Nat) (rs : Raises) (Γ : SEnv) (c : Expr) (t e : Stmt) (x : Name) :
    (checkS par h rs Γ (.ifS c t e)).2 = Γ ∧ (checkS par h rs Γ (.whileS c t)).2 = Γ ∧
    (checkS par h rs Γ (.forS x c t)).2 = Γ :=
  ⟨rfl, rfl, rfl⟩

/-- a re-definition gives later uses the new definition (its flag), whatever was there -/
theorem shadow_latest (par : Parents) (h : Nat) (rs : Raises) (Γ : SEnv) (x : Name) (fin : Bool) (e : Expr) :
    (checkS par h rs Γ (.defv x fin e)).2.lookup x = some (!fin) :=
  lookup_cons_self Γ x _

/-! Non-vacuity: `if c then def a := 1` followed by a read of `a` is rejected; with the definition
    before the `if` it is accepted (class table and raises empty). -/
example : (checkS (fun _ => none) 0 (fun _ => []) ⟨[], [], false⟩
    (.seq (.ifS .lit (.defv 1 false .lit) .skip) (.expr (.var 1)))).1 = [.undefined 1] := by decide +kernel
example : (checkS (fun _ => none) 0 (fun _ => []) ⟨[], [], false⟩
    (.seq (.defv 1 false .lit) (.seq (.ifS .lit (.assign 1 .lit) .skip) (.expr (.var 1))))).1 = [] := by decide +kernel

/-! ### attributes in constructors

`uaS` / `uaB` / `uaA` (Model/CtorAssign.lean) is the model of the unassigned-attribute analysis of the
constructor (`Environment::unassigned`: assignment, if with and without else, loops, match with and
without an arm that matches anything, handle, bare return).  `runB body choices` runs the body along
the path selected by `choices` (which branch, how many iterations, which arm, whether the handled
expression raises). -/

/-- a constructor body the analysis accepts has assigned to every attribute declared without a value
    when it ends — on EVERY path, by falling through or by `return` -/
theorem constructor_assigns_every_attribute (fields : List Nat) (body : List CS)
    (h : ctorAccepts fields body = true) (choices : List Nat) :
    ∀ f ∈ fields, f ∈ (runB body choices []).2.1 := by
  have hp := ctorSoundB fields body fields [] choices [] (ctorAccepts_eq_true.mp h) fun f hf => Or.inr hf
  intro f hf
  cases hr : (runB body choices []).1 with
  | true => exact hp.2 hr f hf
  | false => exact (hp.1 hr f hf).resolve_right List.not_mem_nil

open MV in
/-- non-vacuity: bodies with branches, loops, a match with a catch-all arm and a guarded return are accepted -/
example : ctorAccepts [0, 1] [.assign 1, .ite [.assign 0] [.skip, .assign 0], .loop [.skip], .ifOnly [.ret]] = true
    ∧ ctorAccepts [0] [.matchS [[.assign 0], [.assign 0, .skip]] true, .handle [[.skip]]] = true := by
  decide +kernel

open MV in
/-- each rule of the analysis is needed: the rejected bodies below have a path that leaves attribute 0
    unassigned (an empty loop, the missing else, no arm matching, nothing raised, the early return) -/
example : ctorAccepts [0] [.loop [.assign 0]] = false ∧ (runB [.loop [.assign 0]] [0] []).2.1 = []
    ∧ ctorAccepts [0] [.ifOnly [.assign 0]] = false ∧ (runB [.ifOnly [.assign 0]] [0] []).2.1 = []
    ∧ ctorAccepts [0] [.matchS [[.assign 0]] false] = false ∧ (runB [.matchS [[.assign 0]] false] [0] []).2.1 = []
    ∧ ctorAccepts [0] [.handle [[.assign 0]]] = false ∧ (runB [.handle [[.assign 0]]] [0] []).2.1 = []
    ∧ ctorAccepts [0] [.ifOnly [.ret], .assign 0] = false ∧ (runB [.ifOnly [.ret], .assign 0] [1] []).2.1 = [] := by
  decide +kernel

/-- a constructor body is rejected only if some path through it really ends — by falling through or by
    `return` — with an attribute unassigned (the analysis does not over-reject) -/
theorem constructor_rejection_is_justified (fields : List Nat) (body : List CS)
    (h : ctorAccepts fields body = false) :
    ∃ choices, ∃ f ∈ fields, f ∉ (runB body choices []).2.1 := by
  cases hu : uaB body fields with
  | none =>
    obtain ⟨x, hx, p, hp⟩ := failB body fields hu
    exact ⟨p, x, hx, by simpa using (hp [] [] List.not_mem_nil).2⟩
  | some u' =>
    cases u' with
    | nil => rw [ctorAccepts_eq_true.mpr hu] at h; cases h
    | cons x rest =>
      obtain ⟨p, hp⟩ := pathB body fields _ x hu List.mem_cons_self
      exact ⟨p, x, uaB_sub body fields _ hu x List.mem_cons_self, by simpa using (hp [] []).2.2 List.not_mem_nil⟩

/-- acceptance is exactly "every path assigns to every attribute" -/
theorem constructor_analysis_exact (fields : List Nat) (body : List CS) :
    ctorAccepts fields body = true ↔ ∀ choices, ∀ f ∈ fields, f ∈ (runB body choices []).2.1 := by
  constructor
  · intro h choices; exact constructor_assigns_every_attribute fields body h choices
  · intro hall
    cases hacc : ctorAccepts fields body with
    | true => rfl
    | false =>
      obtain ⟨choices, f, hf, hnot⟩ := constructor_rejection_is_justified fields body hacc
      exact absurd (hall choices f hf) hnot

end MV.C09
