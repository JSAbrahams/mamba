/-
C04 — Accepted programs do not go wrong (operators of the primitive types).

`stubRows` is REGENERATED from `check/resource/primitive/*.py`: the operator methods the checker
believes `Int`, `Float`, `Complex`, `Bool`, `Str` have, with the declared operand and result types.
`pyOp` is the specification: what CPython's operator does on runtime values of those types (by type
tag; `none` = TypeError/AttributeError, a list = the possible result tags).  A declared type admits
its own tag and the tags of its subtypes in the checker's table (`Int <: Float <: Complex`).
Theorem `stubs_sound_partial`: for every stub row outside the listed exceptions, for every runtime
tag its declared operand type admits, the Python operator is defined and its result is admitted by
the declared result type — so an accepted use of that operator cannot raise TypeError and yields a
value of the type the checker continues with.  Every exception is proved to be really unsound
(`exceptions_are_unsound`), each is a recorded known finding.
Name errors are C09's theorem; method/attribute existence on user classes and collections is
decided by the execution oracle of the check.
-/
import MambaVerif.Generated.StubTables

namespace MV.C04

open MV

/-- runtime tags a declared type admits (the checker's `Int <: Float <: Complex`) -/
def admits : Tag → List Tag
  | .int => [.int]
  | .float => [.float, .int]
  | .complex => [.complex, .float, .int]
  | .bool => [.bool]
  | .str => [.str]

def admitsAll (ts : List Tag) : List Tag := ts.flatMap admits

def isNum : Tag → Bool
  | .int | .float | .complex => true
  | _ => false

/-- the numeric tower's join -/
def join : Tag → Tag → Tag
  | .complex, _ => .complex
  | _, .complex => .complex
  | .float, _ => .float
  | _, .float => .float
  | _, _ => .int

/-- CPython: result tags of `self <op> other` (`none`: TypeError / no such method). `bool` is not
    used as a number by the checker's table, so it only meets `==`, `!=`, `str()`, `bool()`. -/
def pyOp (self : Tag) (method : String) (other : Option Tag) : Option (List Tag) :=
  match method, other with
  | "__str__", none => some [.str]
  | "__bool__", none => some [.bool]
  | "__neg__", none => if isNum self then some [self] else none
  | "__eq__", some _ => some [.bool]
  | "__ne__", some _ => some [.bool]
  | m, some o =>
    if m = "__add__" ∧ self = .str ∧ o = .str then some [.str]
    else if !(isNum self && isNum o) then none
    else if m = "__add__" ∨ m = "__sub__" ∨ m = "__mul__" then some [join self o]
    else if m = "__truediv__" then some [if join self o = .complex then .complex else .float]
    else if m = "__floordiv__" ∨ m = "__mod__" then (if join self o = .complex then none else some [join self o])
    else if m = "__pow__" then
      -- a negative integer exponent gives a float, a negative base with a fractional exponent a complex
      (match join self o with
       | .int => some [.int, .float]
       | .float => some [.float, .complex]
       | t => some [t])
    else if m = "__ge__" ∨ m = "__gt__" ∨ m = "__le__" ∨ m = "__lt__" then
      (if join self o = .complex then none else some [.bool])
    else none
  | _, none => none

/-- the row is sound for one runtime operand tag -/
def soundAt (r : StubRow) (other : Option Tag) : Bool :=
  match pyOp r.cls r.method other with
  | some res => res.all fun t => (admitsAll r.ret).contains t
  | none => false

def rowSound (r : StubRow) : Bool :=
  if r.param.isEmpty then soundAt r none else (admitsAll r.param).all fun o => soundAt r (some o)

/-- the rows known to be unsound on the current tree -/
def exceptions : List (Tag × String) := [
  (.str, "__add__"),        -- "a" + 1 is a TypeError: the stub admits int/float/complex/bool operands
  (.complex, "__div__"),    -- Python 3 has no __div__
  (.complex, "__neg__"),    -- -z is complex, the stub says float
  (.int, "__pow__"),        -- 2 ** -1 is a float
  (.float, "__pow__")]      -- (-8.0) ** 0.5 is a complex

/-- a row of the table is sound exactly when it is not listed: the one sweep over the regenerated table
    (`+kernel` here and below: the elaborator's own evaluation of string comparisons is several times
    dearer than the kernel's, which decides anyway) -/
theorem rowSound_eq : ∀ r ∈ stubRows, rowSound r = decide ((r.cls, r.method) ∉ exceptions) := by decide +kernel

/-- **stubs_sound_partial** -/
theorem stubs_sound_partial : ∀ r ∈ stubRows, (r.cls, r.method) ∉ exceptions → rowSound r = true :=
  fun r hr h => (rowSound_eq r hr).trans (decide_eq_true h)

/-- every listed exception is really unsound (each is a known finding, not a blanket exemption) -/
theorem exceptions_are_unsound : ∀ r ∈ stubRows, (r.cls, r.method) ∈ exceptions → rowSound r = false :=
  fun r hr h => (rowSound_eq r hr).trans (decide_eq_false (not_not_intro h))

/-- the exceptions are rows of the table (the list does not exempt anything that is not there) -/
theorem exceptions_exist : ∀ e ∈ exceptions, ∃ r ∈ stubRows, (r.cls, r.method) = e := by decide +kernel

/-- the arithmetic and comparison operators on Int and Float are covered by sound rows -/
theorem int_float_arithmetic_sound : ∀ c ∈ [Tag.int, Tag.float], ∀ m ∈ ["__add__", "__sub__", "__mul__", "__truediv__",
    "__floordiv__", "__mod__", "__ge__", "__gt__", "__le__", "__lt__", "__eq__", "__ne__", "__neg__", "__str__"],
    ∃ r ∈ stubRows, r.cls = c ∧ r.method = m ∧ rowSound r = true := by
  intro c hc m hm
  -- each is the key of a row and is not listed, so that row is sound
  have : (c, m) ∉ exceptions ∧ ∃ r ∈ stubRows, r.cls = c ∧ r.method = m := by
    revert c m; decide +kernel
  obtain ⟨hne, r, hr, rfl, rfl⟩ := this
  exact ⟨r, hr, rfl, rfl, stubs_sound_partial r hr hne⟩

end MV.C04
