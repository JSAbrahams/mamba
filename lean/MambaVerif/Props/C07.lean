/-
C07 — Immutability: `fin` definitions are never reassigned.

On the model of the generate stage's mutability discipline (Model/Scope.lean: the flags of the
innermost visible definition decide, `check_reassignable` / `check_iden_mut`):
* `fin_reassign_rejected`, `undefined_reassign_rejected` — a reassignment (`:=` or a compound
  assignment, which the checker treats alike) whose visible target definition is `fin`, or that has
  none, is an error, in any nesting (the statement is reached with the environment of its block);
* `mutable_reassign_ok` — reassigning a mutable definition adds no error of its own;
* `shadow_decides` — after a re-definition the NEW flag decides, whatever the older ones were;
* `definition_scope` — a `fin` definition made inside a branch/loop does not constrain the outer
  name after the block, and an outer `fin` stays `fin` inside.
Fields reached through a receiver and tuple components are outside the model (DESIGN.md).
-/
import MambaVerif.Lemmas.ScopeSound

namespace MV.C07

open MV.SL

theorem fin_reassign_rejected (par : Parents) (h : Nat) (rs : Raises) (Γ : SEnv) (x : Name) (e : Expr)
    (hx : Γ.lookup x = some false) : .mutability x ∈ (checkS par h rs Γ (.assign x e)).1 := by
  rw [checkS_assign, hx]
  exact List.mem_append_right _ List.mem_cons_self

theorem undefined_reassign_rejected (par : Parents) (h : Nat) (rs : Raises) (Γ : SEnv) (x : Name) (e : Expr)
    (hx : Γ.lookup x = none) : .undefined x ∈ (checkS par h rs Γ (.assign x e)).1 := by
  rw [checkS_assign, hx]
  exact List.mem_append_right _ List.mem_cons_self

theorem mutable_reassign_ok (par : Parents) (h : Nat) (rs : Raises) (Γ : SEnv) (x : Name) (e : Expr)
    (hx : Γ.lookup x = some true) : (checkS par h rs Γ (.assign x e)).1 = checkE par h rs Γ e := by
  rw [checkS_assign, hx]
  exact List.append_nil _

/-- the flag of the latest definition decides -/
theorem shadow_decides (par : Parents) (h : Nat) (rs : Raises) (Γ : SEnv) (x : Name) (fin : Bool) (e e' : Expr)
    (he : checkE par h rs Γ e = []) (he' : checkE par h rs (checkS par h rs Γ (.defv x fin e)).2 e' = []) :
    (checkS par h rs Γ (.seq (.defv x fin e) (.assign x e'))).1 = (if fin then [.mutability x] else []) := by
  have hl : (checkS par h rs Γ (.defv x fin e)).2.lookup x = some (!fin) := lookup_cons_self Γ x _
  show checkE par h rs Γ e ++ (checkS par h rs (checkS par h rs Γ (.defv x fin e)).2 (.assign x e')).1 = _
  rw [he, checkS_assign, he', hl]
  cases fin <;> rfl

/-- what a branch defines does not change the flag a later statement sees -/
theorem definition_scope (par : Parents) (h : Nat) (rs : Raises) (Γ : SEnv) (c : Expr) (t e : Stmt) (x : Name) :
    (checkS par h rs Γ (.ifS c t e)).2.lookup x = Γ.lookup x :=
  rfl

/-- an outer definition is seen unchanged inside a nested block that does not redefine it -/
theorem outer_flag_inside_loop (par : Parents) (h : Nat) (rs : Raises) (Γ : SEnv) (i x : Name) (hne : i ≠ x) :
    ({ Γ with vars := (i, true) :: Γ.vars } : SEnv).lookup x = Γ.lookup x :=
  (lookup_cons Γ i x true).trans (if_neg hne)

/-! Non-vacuity: `def fin a := 1; a := 2` is rejected, with a mutable re-definition in between accepted. -/
example : (checkS (fun _ => none) 0 (fun _ => []) ⟨[], [], false⟩
    (.seq (.defv 1 true .lit) (.assign 1 .lit))).1 = [.mutability 1] := by decide +kernel
example : (checkS (fun _ => none) 0 (fun _ => []) ⟨[], [], false⟩
    (.seq (.defv 1 true .lit) (.seq (.defv 1 false .lit) (.assign 1 .lit)))).1 = [] := by decide +kernel

end MV.C07
