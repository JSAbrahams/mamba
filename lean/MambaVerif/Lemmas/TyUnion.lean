/-
`Name::union` as a set of members (identified by their canonical key): for names without a `None`
member its keys are those of both sides, whence commutative, associative and idempotent (the branch
that folds `None` into nullable members is decided on the universe by the oracle and the model
correspondence, not here).
-/
import MambaVerif.Model.Ty

namespace MV

/-- the same set of members, members identified by their canonical key (`TName.key`, the model of `Eq`) -/
def SameKeys (xs ys : List TName) : Prop :=
  ∀ k : String, (∃ x ∈ xs, x.key = k) ↔ (∃ y ∈ ys, y.key = k)

/-- no member is `None` -/
def NoNull (xs : List TName) : Prop := ∀ x ∈ xs, x.isNull = false

theorem sameKeys_iff {xs ys : List TName} :
    SameKeys xs ys ↔ ∀ k, k ∈ xs.map TName.key ↔ k ∈ ys.map TName.key := by
  simp only [SameKeys, List.mem_map]

theorem noNull_append {xs ys : List TName} : NoNull (xs ++ ys) ↔ NoNull xs ∧ NoNull ys :=
  List.forall_mem_append

theorem memList_iff (x : TName) (xs : List TName) : TName.memList x xs = true ↔ x.key ∈ xs.map TName.key := by
  simp only [TName.memList, TName.beq, List.any_eq_true, beq_iff_eq, List.mem_map]
  exact exists_congr fun _ => and_congr_right fun _ => eq_comm

theorem dedupT_sub : ∀ (xs : List TName), ∀ x ∈ dedupT xs, x ∈ xs
  | [], _, h => nomatch h
  | y :: ys, x, h => by
    unfold dedupT at h
    split at h
    · exact List.mem_cons_of_mem _ (dedupT_sub ys x h)
    · exact (List.mem_cons.mp h).elim (· ▸ List.mem_cons_self ..) fun h' => List.mem_cons_of_mem _ (dedupT_sub ys x h')

/-- removing duplicates keeps the set of keys -/
theorem mem_keys_dedupT (k : String) : ∀ (xs : List TName), k ∈ (dedupT xs).map TName.key ↔ k ∈ xs.map TName.key
  | [] => Iff.rfl
  | x :: xs => by
    unfold dedupT
    split
    next hm =>
      rw [mem_keys_dedupT k xs, List.map_cons, List.mem_cons]
      exact ⟨.inr, fun h => h.elim (· ▸ (memList_iff x xs).mp hm) id⟩
    next => simp only [List.map_cons, List.mem_cons, mem_keys_dedupT k xs]

theorem union_names (a b : NameT) : (a.union b).names =
    let ns := dedupT (a.names ++ b.names)
    if ns.any TName.isNull && ns.length > 1 then
      dedupT ((ns.filter (fun n => !n.isNull)).map (fun n => TName.mk true n.mutable n.base n.generics))
    else ns := rfl

/-- without a `None` member the union is the duplicate-free concatenation -/
theorem union_names_of_noNull (a b : NameT) (h : NoNull (a.names ++ b.names)) :
    (a.union b).names = dedupT (a.names ++ b.names) := by
  have hany : (dedupT (a.names ++ b.names)).any TName.isNull = false :=
    List.any_eq_false.mpr fun x hx => by simp [h x (dedupT_sub _ x hx)]
  simp [union_names, hany]

theorem noNull_union (a b : NameT) (h : NoNull (a.names ++ b.names)) : NoNull (a.union b).names :=
  fun x hx => h x (dedupT_sub _ x (union_names_of_noNull a b h ▸ hx))

/-- the members of `A ∪ B` are those of `A` and those of `B` -/
theorem mem_keys_union (a b : NameT) (h : NoNull (a.names ++ b.names)) (k : String) :
    k ∈ (a.union b).names.map TName.key ↔ k ∈ a.names.map TName.key ∨ k ∈ b.names.map TName.key := by
  rw [union_names_of_noNull a b h, mem_keys_dedupT, List.map_append, List.mem_append]

end MV
