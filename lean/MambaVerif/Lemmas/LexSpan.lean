/-
Token spans are exact: the text of every lexical token is the slice of the source it was lexed from,
and the lexer's caret is the start caret advanced over everything consumed so far.
-/
import MambaVerif.Lemmas.LexRun

namespace MV

theorem advanceOver_append (p : CaretPos) (a b : List Char) :
    p.advanceOver (a ++ b) = (p.advanceOver a).advanceOver b := by
  simp [CaretPos.advanceOver, List.foldl_append]

theorem advanceOver_cons (p : CaretPos) (c : Char) (cs : List Char) :
    p.advanceOver (c :: cs) = (p.advChar c).advanceOver cs := by
  simp [CaretPos.advanceOver]

/-! ### the number scanner -/

/-- the text the scanned number will be rendered as (`numTok`) -/
def numText (s : NumScan) : List Char :=
  if s.eNum then s.number.reverse ++ 'E' :: s.exp.reverse else s.number.reverse

theorem numTok_text (s : NumScan) : (numTok s).text = numText s := by
  unfold numTok numText
  split
  · rfl
  · split <;> rfl

/-- a scanner step that takes `c`: one more consumed, `c` added to the text -/
theorem numSpan_cons {c : Char} {cs : List Char} {s s' r : NumScan}
    (hc : s'.consumed = s.consumed + 1) (ht : numText s' = numText s ++ [c])
    (h : ∃ k, r.consumed = s'.consumed + k ∧ k ≤ cs.length ∧ numText r = numText s' ++ cs.take k) :
    ∃ k, r.consumed = s.consumed + k ∧ k ≤ (c :: cs).length ∧ numText r = numText s ++ (c :: cs).take k := by
  obtain ⟨k, h1, h2, h3⟩ := h
  exact ⟨k + 1, by omega, Nat.succ_le_succ h2, by rw [h3, ht]; simp⟩

theorem scanNum_span : ∀ (cs : List Char) (s : NumScan), (s.eNum = false → s.exp = []) →
    ∃ k, (scanNum cs s).consumed = s.consumed + k ∧ k ≤ cs.length ∧
      numText (scanNum cs s) = numText s ++ cs.take k := by
  intro cs s hinv
  fun_induction scanNum cs s with
  | case1 | case4 | case6 | case7 | case9 => exact ⟨0, by simp⟩
  | case2 c cs s _ he ih =>
    have he : s.eNum = false := by simpa using he
    exact numSpan_cons rfl (by simp [numText, he]) (ih fun _ => hinv he)
  | case3 c cs s _ he ih =>
    have he : s.eNum = true := by simpa using he
    exact numSpan_cons rfl (by simp [numText, he]) (ih fun h => by simp [he] at h)
  | case5 cs s he _ ih =>
    have he : s.eNum = false := by simpa using he
    exact numSpan_cons rfl (by simp [numText, he, hinv he]) (ih fun h => by simp at h)
  | case8 cs s hf _ _ _ ih =>
    have he : s.eNum = false := by simp at hf; exact hf.2
    exact numSpan_cons rfl (by simp [numText, he]) (ih fun _ => hinv he)

/-! ### the string scanner -/

theorem scanStep_fields (c : Char) (s : StrScan) :
    (scanStep c s).string = c :: s.string ∧ (scanStep c s).consumed = s.consumed + 1 ∧
      (scanStep c s).terminated = s.terminated := by
  unfold scanStep
  split
  · exact ⟨rfl, rfl, rfl⟩
  · split <;> exact ⟨rfl, rfl, rfl⟩

theorem scanStr_span : ∀ (cs : List Char) (s : StrScan), s.terminated = false →
    ∃ k, (scanStr cs s).consumed = s.consumed + k ∧ k ≤ cs.length ∧
      ((scanStr cs s).terminated = true →
        (scanStr cs s).string.reverse ++ ['"'] = s.string.reverse ++ cs.take k)
  | [], s, hs => ⟨0, by simp [scanStr], by simp, by intro h; simp [scanStr, hs] at h⟩
  | c :: cs, s, hs => by
    unfold scanStr
    split
    · rename_i hq
      refine ⟨1, rfl, by simp, fun _ => ?_⟩
      have : c = '"' := by simp at hq; exact hq.2
      subst this; simp
    · obtain ⟨hstr, hcons, hterm⟩ := scanStep_fields c s
      obtain ⟨k, h1, h2, h3⟩ := scanStr_span cs (scanStep c s) (by rw [hterm]; exact hs)
      refine ⟨k + 1, by rw [h1, hcons]; omega, by simp; omega, fun ht => ?_⟩
      rw [h3 ht, hstr]; simp

/-! ### the character dispatch: the token text is what was consumed -/

theorem Kind.tok_text {k : Kind} {s : List Char} (h : k.spelling = some s) : k.tok.text = s := by
  simp [Kind.tok, h]

/-- what has to be shown for one token: its text is the consumed slice -/
def Consumed (c : Char) (rest : List Char) (t : Tok) (n : Nat) : Prop :=
  t.text = c :: rest.take n ∧ n ≤ rest.length

theorem num_arm (c : Char) (rest : List Char) :
    Consumed c rest (numTok (scanNum rest ⟨[c], [], false, false, 0⟩)) (scanNum rest ⟨[c], [], false, false, 0⟩).consumed := by
  obtain ⟨k, h1, h2, h3⟩ := scanNum_span rest ⟨[c], [], false, false, 0⟩ (fun _ => rfl)
  rw [h1.trans (Nat.zero_add k)]
  exact ⟨(numTok_text _).trans h3, h2⟩

/-- the comment and identifier arms -/
theorem takeWhile_arm (k : Kind) (c : Char) (rest : List Char) (p : Char → Bool) :
    Consumed c rest ⟨k, c :: rest.takeWhile p⟩ (rest.takeWhile p).length :=
  ⟨congrArg _ (List.prefix_iff_eq_take.mp (List.takeWhile_prefix p)), (List.takeWhile_prefix p).length_le⟩

theorem str_arm (rest : List Char) (h1 : (scanStr rest StrScan.init).terminated = true) :
    Consumed '"' rest ⟨.Str, '"' :: (scanStr rest StrScan.init).string.reverse ++ ['"']⟩
      (scanStr rest StrScan.init).consumed := by
  obtain ⟨k, hk1, hk2, hk3⟩ := scanStr_span rest StrScan.init rfl
  rw [show (scanStr rest StrScan.init).consumed = k from hk1.trans (Nat.zero_add k)]
  exact ⟨congrArg ('"' :: ·) (hk3 h1), hk2⟩

theorem classify_text (nested : List Char → LexRes (List Lex)) (pos : CaretPos) (c : Char)
    (rest : List Char) (t : Tok) (nest : List (List Lex)) (n : Nat)
    (h : classify nested pos c rest = .tok t nest n) (hk : t.kind ≠ .NL) : Consumed c rest t n := by
  cases classify_spec h with
  | fixed hsp hn => exact ⟨Kind.tok_text hsp, hn⟩
  | lf | crlf => exact absurd rfl hk
  | comment | id => exact takeWhile_arm ..
  | num => exact num_arm ..
  | str ht => exact str_arm _ ht

/-! ### one step of the main loop -/

/-- a newline token is a line feed, or a carriage return followed by a line feed -/
theorem classify_nl_cases {nested : List Char → LexRes (List Lex)} {pos : CaretPos} {c : Char}
    {rest : List Char} {t : Tok} {nest : List (List Lex)} {n : Nat}
    (h : classify nested pos c rest = .tok t nest n) (hk : t.kind = .NL) :
    (c = '\n' ∧ n = 0) ∨ (c = '\r' ∧ n = 1 ∧ ∃ tl, rest = '\n' :: tl) := by
  cases classify_spec h with
  | fixed hsp => cases hk; cases hsp
  | lf => exact .inl ⟨rfl, rfl⟩
  | crlf => exact .inr ⟨rfl, rfl, _, rfl⟩
  | comment | id | str => cases hk
  | num => exact absurd hk ((by decide : ∀ k ∈ [Kind.ENum, .Real, .Int], k ≠ .NL) _ (numTok_kind _))

/-- tokens that carry source text (everything but the layout tokens the lexer synthesises) -/
def Lexical (l : Lex) : Prop := l.kind ≠ .NL ∧ l.kind ≠ .Indent ∧ l.kind ≠ .Dedent ∧ l.kind ≠ .Eof

/-- `l` is exactly the slice `mid` of `cs` that follows `pre`, carets counted from `p0` -/
def SpanOf (p0 : CaretPos) (cs : List Char) (l : Lex) : Prop :=
  ∃ pre mid post, cs = pre ++ mid ++ post ∧ l.start = p0.advanceOver pre ∧ l.tok.text = mid ∧
    l.stop = p0.advanceOver (pre ++ mid)

theorem SpanOf.shift {p0 : CaretPos} {a cs : List Char} {l : Lex} (h : SpanOf (p0.advanceOver a) cs l) :
    SpanOf p0 (a ++ cs) l := by
  obtain ⟨pre, mid, post, e, hs, ht, he⟩ := h
  refine ⟨a ++ pre, mid, post, by rw [e]; simp, ?_, ht, ?_⟩
  · rw [hs, advanceOver_append]
  · rw [he, ← advanceOver_append]; simp

theorem layout_not_lexical (st : LState) (hn : AllNL st.newlines) : ∀ l ∈ st.layout, ¬ Lexical l := by
  intro l hl hlex
  rcases layout_kind st hn l hl with e | e | e
  · exact hlex.1 e
  · exact hlex.2.1 e
  · exact hlex.2.2.1 e

/-- one call of `into_tokens`: the caret advances over exactly what was consumed, and the token it
    emits (if it carries text) is that slice -/
theorem step_span {nested : List Char → LexRes (List Lex)} {c : Char} {rest : List Char}
    {st st' : LState} {toks : List Lex} {n : Nat}
    (h : step nested c rest st = .ok (toks, st', n)) (hn : AllNL st.newlines) :
    n ≤ rest.length ∧ st'.pos = st.pos.advanceOver (c :: rest.take n) ∧
      ∀ l ∈ toks, Lexical l → SpanOf st.pos (c :: rest) l := by
  rcases step_ok h with ⟨t, nest, hc, ht⟩ | ⟨hc, rfl, rfl, rfl⟩
  · by_cases hk : t.kind = .NL
    · cases (LState.token_nl hk st nest).symm.trans ht
      -- the caret moves to the next line, as it does over "\n" and over "\r\n"
      rcases classify_nl_cases hc hk with ⟨rfl, rfl⟩ | ⟨rfl, rfl, tl, rfl⟩
      · exact ⟨Nat.zero_le _, rfl, fun _ hl => nomatch hl⟩
      · exact ⟨Nat.le_add_left 1 _, rfl, fun _ hl => nomatch hl⟩
    · cases (LState.token_of_ne hk st nest).symm.trans ht
      obtain ⟨htext, hle⟩ := classify_text _ _ _ _ _ _ _ hc hk
      refine ⟨hle, congrArg _ htext, fun l hl hlex => ?_⟩
      rcases List.mem_append.mp hl with hl | hl
      · exact absurd hlex (layout_not_lexical st hn l hl)
      · cases List.mem_singleton.mp hl
        exact ⟨[], t.text, rest.drop n, by rw [htext]; simp, rfl, rfl, rfl⟩
  · cases classify_spec hc
    exact ⟨Nat.zero_le _, rfl, fun _ hl => nomatch hl⟩

/-- the main loop: the caret ends where the text ends, and every lexical token is its slice of the text -/
theorem run_spans (nested : List Char → LexRes (List Lex)) (cs : List Char) :
    ∀ (skip : Nat) (st : LState) {toks : List Lex} {st' : LState}, skip ≤ cs.length →
    run nested cs skip st = .ok (toks, st') → AllNL st.newlines →
    st'.pos = st.pos.advanceOver (cs.drop skip) ∧
      ∀ l ∈ toks, Lexical l → SpanOf st.pos (cs.drop skip) l := by
  intro skip st toks st' hskip h hn
  clear hskip  -- not needed; in the way of the induction
  fun_induction run nested cs skip st generalizing toks st' with
  | case1 => cases h; exact ⟨by rw [List.drop_nil]; rfl, fun _ hl => nomatch hl⟩
  | case2 _ _ _ _ ih => exact ih h hn
  | case3 | case4 | case5 | case6 => cases h
  | case7 c rest st _ st1 n hs _ _ hr ih =>
    cases h
    obtain ⟨hle, hpos, htoks⟩ := step_span hs hn
    obtain ⟨hpos2, hmore⟩ := ih hr (step_inv hs hn).2.1
    have hsplit : c :: rest = (c :: rest.take n) ++ rest.drop n := by simp
    refine ⟨by rw [hpos2, hpos, ← advanceOver_append, ← hsplit]; rfl, fun l hl hlex => ?_⟩
    rcases List.mem_append.mp hl with hl | hl
    · exact htoks l hl hlex
    · have := hmore l hl hlex
      rw [hpos] at this
      rw [List.drop_zero, hsplit]
      exact this.shift

end MV
