/-
The printer side of the round trip: the facts about the regenerated tables, the printer's equations,
how a printed expression starts, and the statement `SProp2` that is proved by induction on the
expression.  `lift_top` proves it of a form from that form's own level alone; `SProp2.expr` and
`operand_S` are how it is used of a part of a form: read as a whole `expression`, or as an operand
at any level, bare or in parentheses.
-/
import MambaVerif.Lemmas.PyExt

namespace MV

/-! ### facts about the regenerated printer tables (these are what a changed table breaks) -/

theorem prec_eq_level (o : BinOp) : o.prec = pyLevel o := by cases o <;> rfl
/-- The minimum `sides` gives for each operand is at least the level at which the grammar reads that
    operand: for the operators the grammar folds to the left, its own level and the next; for a
    comparison, `bitwise_or` on both sides; for a power, `primary` and `factor`. -/
theorem sides_levels (o : BinOp) :
    (isLeft (pyLevel o) = true ∧ pyLevel o ≤ o.sides.1 ∧ pyLevel o + 1 ≤ o.sides.2) ∨
    (pyLevel o = 6 ∧ 7 ≤ o.sides.1 ∧ 7 ≤ o.sides.2) ∨
    (pyLevel o = 14 ∧ 15 ≤ o.sides.1 ∧ 13 ≤ o.sides.2) := by
  cases o <;> decide
/-- the printer's `prec` of a unary operator is the level at which the grammar has its prefix form -/
theorem prefixForm_uop (u : UnOp) (ts : List PTok) : prefixForm u.prec (.uop u :: ts) = some (u, ts) := by
  cases u <;> simp [prefixForm, UnOp.prec]
theorem prefixForm_uop_ne (u : UnOp) {j : Nat} (h : j ≠ u.prec) (ts : List PTok) :
    prefixForm j (.uop u :: ts) = none := by
  cases u <;> simpa [prefixForm, UnOp.prec] using h
theorem un_prec_cases (u : UnOp) : u.prec = 5 ∨ u.prec = 13 := by cases u <;> decide
theorem precAtom_eq : precAtom = 15 := rfl
theorem precLambda_eq : precLambda = 1 := rfl
theorem precTernary_eq : precTernary = 2 := rfl
theorem ternaryMins_eq : ternaryMins = (3, 3, 1) := rfl
theorem precCompCond_eq : precCompCond = 5 := rfl

theorem sides_fst (o : BinOp) : pyLevel o ≤ o.sides.1 := by
  rcases sides_levels o with ⟨_, h, _⟩ | ⟨_, _, _⟩ | ⟨_, _, _⟩
  · exact h
  · omega
  · omega

theorem full_prec_bounds (e : CE) : 1 ≤ e.prec ∧ e.prec ≤ 15 := by
  unfold CE.prec
  split
  · rename_i op _ _
    have := level_range op; rw [prec_eq_level]; omega
  · rename_i u _
    have := un_prec_cases u; omega
  · decide
  · decide
  · decide

/-! ### the printer, one form at a time -/

theorem pr_atom (s : String) : pr (.atom s) = [.word s] := by simp [pr]
theorem pr_int (s : String) : pr (.int s) = [.word s] := by simp [pr]
theorem pr_bin (op : BinOp) (l r : CE) :
    pr (.bin op l r) = operand l op.sides.1 ++ [.bop op] ++ operand r op.sides.2 := by simp [pr]
theorem pr_un (u : UnOp) (x : CE) : pr (.un u x) = [.uop u] ++ operand x u.prec := by simp [pr]
theorem pr_ternary (c t e : CE) :
    pr (.ternary c t e) = operand t 3 ++ [.kIf] ++ operand c 3 ++ [.kElse] ++ operand e 1 := by
  simp [pr, ternaryMins_eq]
theorem pr_call (f : CE) (args : List CE) :
    pr (.call f args) = primary f ++ [.lpar] ++ commaSep (prAll args) ++ [.rpar] := by simp [pr]
theorem pr_attr (o p : CE) : pr (.attr o p) = primary o ++ [.dot] ++ pr p := by simp [pr]
theorem pr_index (i r : CE) : pr (.index i r) = primary i ++ [.lbr] ++ pr r ++ [.rbr] := by simp [pr]
theorem pr_isA (l r : CE) :
    pr (.isA l r) = [.word "isinstance", .lpar] ++ pr l ++ [.commaTight] ++ pr r ++ [.rpar] := by simp [pr]
theorem pr_sqrt (e : CE) : pr (.sqrt e) = [.word "math", .dot, .word "sqrt", .lpar] ++ pr e ++ [.rpar] := by
  simp [pr]
theorem pr_tuple (es : List CE) : pr (.tuple es) = [.lpar] ++ commaSep (prAll es) ++ [.rpar] := by simp [pr]
theorem pr_list (es : List CE) : pr (.list es) = [.lbr] ++ commaSep (prAll es) ++ [.rbr] := by simp [pr]
theorem pr_set (es : List CE) : pr (.set es) = [.lcur] ++ commaSep (prAll es) ++ [.rcur] := by simp [pr]
theorem pr_enum (n e : String) :
    pr (.enum n e) = [.lpar, .word n, .bop .Mul, .word "10", .bop .Pow, .word e, .rpar] := by simp [pr, parens]
theorem pr_lambda (args : List CE) (body : CE) :
    pr (.lambda args body) =
      [.kLambda] ++ (if args.isEmpty then [] else [.space] ++ commaSep (prAll args)) ++ [.colon] ++ pr body := by
  simp [pr]

theorem operand_unfold (x : CE) (min : Nat) :
    operand x min = if x.prec < min then parens (pr x) else pr x := by
  conv => lhs; unfold operand

theorem primary_int (s : String) : primary (.int s) = parens [.word s] := by
  conv => lhs; unfold primary

theorem primary_other (x : CE) (h : ∀ s, x ≠ .int s) : primary x = operand x precAtom := by
  conv => lhs; unfold primary
  split
  · exact absurd rfl (h _)
  · rfl

/-! ### how printed forms start -/

/-- first token of a printed expression -/
def headTok : List PTok → Option PTok := List.head?

theorem noPrefix_of_head {ts : List PTok} {t : PTok} (h : ts.head? = some t)
    (hg : (∃ s, t = .word s) ∨ t = .lpar ∨ t = .lbr ∨ t = .lcur) (j : Nat) : NoPrefixAt j ts := by
  cases ts with
  | nil => simp at h
  | cons t' r =>
    simp at h; subst h
    rcases hg with ⟨s, rfl⟩ | rfl | rfl | rfl <;> simp [NoPrefixAt, prefixForm, headIsLambda]

theorem head_append {a : List PTok} {t : PTok} (h : a.head? = some t) (b : List PTok) :
    (a ++ b).head? = some t := by
  cases a with
  | nil => simp at h
  | cons x xs => simpa using h

theorem noPrefix_append_of {a : List PTok} (b : List PTok) {j : Nat} (hne : a ≠ [])
    (h : NoPrefixAt j (a ++ [])) : NoPrefixAt j (a ++ b) := by
  cases a with
  | nil => exact absurd rfl hne
  | cons x xs =>
    rw [List.append_nil] at h
    -- both conditions look at the first token only; it matters what follows it only for a unary operator
    cases x with
    | uop u =>
      refine ⟨?_, rfl⟩
      have h1 := h.1
      rw [List.cons_append]
      simp only [prefixForm] at h1 ⊢
      split at h1
      · cases h1
      · rw [if_neg ‹_›]
    | _ => exact h

/-- The lowest level at which a token may start an expression: that of its prefix form for a unary
    operator and `lambda`, any for the tokens that start an atom; 0 for the tokens that start none. -/
def startLevel : PTok → Nat
  | .word _ | .lpar | .lbr | .lcur => 16
  | .uop u => u.prec
  | .kLambda => precLambda
  | _ => 0

theorem noPrefix_of_startLevel {ts : List PTok} {t : PTok} {j : Nat} (h : ts.head? = some t) (hj1 : 1 ≤ j)
    (hj : j < startLevel t) : NoPrefixAt j ts := by
  unfold startLevel at hj
  split at hj
  · exact noPrefix_of_head h (.inl ⟨_, rfl⟩) j
  · exact noPrefix_of_head h (.inr (.inl rfl)) j
  · exact noPrefix_of_head h (.inr (.inr (.inl rfl))) j
  · exact noPrefix_of_head h (.inr (.inr (.inr rfl))) j
  · rename_i u
    cases ts with
    | nil => cases h
    | cons t' r => cases h; exact ⟨prefixForm_uop_ne u (by omega) r, rfl⟩
  · rw [precLambda_eq] at hj; omega
  · omega

theorem headOpen_of_startLevel {ts : List PTok} {t : PTok} (h : ts.head? = some t) (hl : 1 ≤ startLevel t) :
    HeadOpen ts := by
  cases ts with
  | nil => cases h
  | cons t' r =>
    cases h
    show isCloser t = false
    cases hc : isCloser t with
    | false => rfl
    | true => rcases isCloser_cases hc with rfl | rfl | rfl <;> exact absurd hl (by decide)

/-- an operand printed with minimum `min` starts with a token of start level at least `min` -/
theorem operand_head (x : CE) (min : Nat) {j : Nat} (hj : j ≤ min) (hj16 : j ≤ 16)
    (ih : ∃ t, (pr x).head? = some t ∧ x.prec ≤ startLevel t) :
    ∃ t, (operand x min).head? = some t ∧ j ≤ startLevel t := by
  rw [operand_unfold]
  split
  · exact ⟨.lpar, rfl, hj16⟩
  · obtain ⟨t, ht, hl⟩ := ih
    exact ⟨t, ht, by omega⟩

theorem primary_head (x : CE) (ih : ∃ t, (pr x).head? = some t ∧ x.prec ≤ startLevel t) :
    ∃ t, (primary x).head? = some t ∧ 15 ≤ startLevel t := by
  by_cases hi : ∃ s, x = .int s
  · obtain ⟨s, rfl⟩ := hi
    exact ⟨.lpar, by rw [primary_int]; rfl, Nat.le_succ 15⟩
  · rw [primary_other x (fun s e => hi ⟨s, e⟩), precAtom_eq]
    exact operand_head x 15 (Nat.le_refl _) (by omega) ih

/-- A printed expression starts with a token that starts an expression, and no prefix form of a
    level below the expression's own. -/
theorem pr_head : (e : CE) → ∃ t, (pr e).head? = some t ∧ e.prec ≤ startLevel t
  | .atom s => ⟨.word s, by rw [pr_atom]; rfl, Nat.le_succ 15⟩
  | .int s => ⟨.word s, by rw [pr_int]; rfl, Nat.le_succ 15⟩
  | .enum n e => ⟨.lpar, by rw [pr_enum]; rfl, Nat.le_succ 15⟩
  | .un u x => ⟨.uop u, by rw [pr_un]; rfl, Nat.le_refl _⟩
  | .bin op l r => by
    obtain ⟨t, ht, hl⟩ := operand_head l op.sides.1 (sides_fst op) (by have := level_range op; omega) (pr_head l)
    exact ⟨t, by rw [pr_bin, List.append_assoc]; exact head_append ht _, by rw [CE.prec, prec_eq_level]; exact hl⟩
  | .ternary c t e => by
    obtain ⟨t', ht, hl⟩ := operand_head t 3 (j := 2) (by omega) (by omega) (pr_head t)
    exact ⟨t', by rw [pr_ternary]; simp only [List.append_assoc]; exact head_append ht _, hl⟩
  | .lambda args body => ⟨.kLambda, by rw [pr_lambda]; rfl, Nat.le_refl _⟩
  | .call f args => by
    obtain ⟨t, ht, hl⟩ := primary_head f (pr_head f)
    exact ⟨t, by rw [pr_call]; simp only [List.append_assoc]; exact head_append ht _, hl⟩
  | .attr o p => by
    obtain ⟨t, ht, hl⟩ := primary_head o (pr_head o)
    exact ⟨t, by rw [pr_attr, List.append_assoc]; exact head_append ht _, hl⟩
  | .index i r => by
    obtain ⟨t, ht, hl⟩ := primary_head i (pr_head i)
    exact ⟨t, by rw [pr_index]; simp only [List.append_assoc]; exact head_append ht _, hl⟩
  | .isA l r => ⟨.word "isinstance", by rw [pr_isA]; rfl, Nat.le_succ 15⟩
  | .sqrt e => ⟨.word "math", by rw [pr_sqrt]; rfl, Nat.le_succ 15⟩
  | .tuple es => ⟨.lpar, by rw [pr_tuple]; rfl, Nat.le_succ 15⟩
  | .list es => ⟨.lbr, by rw [pr_list]; rfl, Nat.le_succ 15⟩
  | .set es => ⟨.lcur, by rw [pr_set]; rfl, Nat.le_succ 15⟩

theorem pr_headOpen (e : CE) (rest : List PTok) : HeadOpen (pr e ++ rest) := by
  obtain ⟨t, ht, hl⟩ := pr_head e
  exact headOpen_of_startLevel (head_append ht rest) (by have := full_prec_bounds e; omega)

/-- the printed form does not start with a prefix form (unary operator or `lambda`) of a level below its own -/
theorem pr_noPrefix (e : CE) (rest : List PTok) (j : Nat) (hj1 : 1 ≤ j) (hj : j < e.prec) :
    NoPrefixAt j (pr e ++ rest) := by
  obtain ⟨t, ht, hl⟩ := pr_head e
  exact noPrefix_of_startLevel (head_append ht rest) hj1 (by omega)

theorem operand_noPrefix (x : CE) (min j : Nat) (hj1 : 1 ≤ j) (hj : j < min) (hj16 : j < 16) (rest : List PTok) :
    NoPrefixAt j (operand x min ++ rest) := by
  obtain ⟨t, ht, hl⟩ := operand_head x min (j := j + 1) hj hj16 (pr_head x)
  exact noPrefix_of_startLevel (head_append ht rest) hj1 hl

/-! ### the statement proved by induction on the expression -/

/-- the three conditions on what follows a bare expression: no operator of its own level after a
    comparison or a power, and nothing that continues an expression after a conditional or a lambda
    (their last part is parsed as a whole `expression`) -/
def NonAssoc2 (x : CE) (rest : List PTok) : Prop :=
  (x.prec = 6 → Stop 6 rest) ∧ (x.prec = 14 → Stop 14 rest) ∧ (x.prec ≤ 2 → Stop 2 rest)

theorem nonAssoc2_of_stop2 (x : CE) (rest : List PTok) (h : Stop 2 rest) : NonAssoc2 x rest :=
  ⟨fun _ => h.mono (by omega), fun _ => h.mono (by omega), fun _ => h⟩

/-- Parsing the printed form of `e` at any level `k` up to its own, with `rest` after it, does what
    level `k` does after the operand `⌜e⌝` with `rest` left. -/
def SProp2 (e : CE) : Prop :=
  ∀ (k : Nat) (rest : List PTok) (out : PyAst × List PTok), 1 ≤ k → k ≤ e.prec → Stop (k + 1) rest →
    NonAssoc2 e rest → Ev (fun m => cont m k (embed e) rest) out → Ev (fun m => parse m k (pr e ++ rest)) out

/-- It is enough to read the expression at its own level `p`: the levels below climb down to `p`,
    where the printed form starts no prefix form, and find nothing to continue on the way back. -/
theorem lift_top {e : CE} {p : Nat} (hp : e.prec = p)
    (htop : ∀ (rest : List PTok) (out : PyAst × List PTok), Stop (p + 1) rest → NonAssoc2 e rest →
      Ev (fun m => cont m p (embed e) rest) out → Ev (fun m => parse m p (pr e ++ rest)) out) :
    SProp2 e := by
  subst hp
  intro k rest out hk1 hk hstop hna hc
  by_cases hkp : k = e.prec
  · subst hkp; exact htop rest out hstop hna hc
  · have hlt : k < e.prec := by omega
    exact Ev_descend hlt (full_prec_bounds e).2 (fun j hj1 hj2 => pr_noPrefix e rest j (by omega) hj2)
      (htop rest _ (hstop.mono (by omega)) hna (Ev_exit_of_stop (hstop.mono (by omega)))) hstop hc

/-- printed bare and followed by nothing that continues an expression, it is read as a whole `expression` -/
theorem SProp2.expr {x : CE} (hS : SProp2 x) {rest : List PTok} (hstop : Stop 2 rest) :
    Ev (fun m => parse m 1 (pr x ++ rest)) (embed x, rest) :=
  hS 1 rest _ (Nat.le_refl _) (full_prec_bounds x).1 hstop (nonAssoc2_of_stop2 x rest hstop)
    (Ev_exit_of_level (.inl rfl))

theorem Ev_parens {ts rest : List PTok} {a : PyAst} {out : PyAst × List PTok}
    (h1 : Ev (fun m => parse m 1 (ts ++ .rpar :: rest)) (a, .rpar :: rest))
    (h2 : Ev (fun m => cont m 15 a rest) out) : Ev (fun m => parse m 15 (parens ts ++ rest)) out := by
  simpa [parens] using Ev_paren h1 h2

/-- An operand is read back at any level `k`: in parentheses whatever the level; bare if `k` is below
    its own level, or is its own and not one of the three that the grammar reads once without looping
    (conditional 2, comparison 6, power 14) — then `Stop (k + 1)` gives all that `NonAssoc2` asks of
    what follows. -/
theorem operand_S {x : CE} (hS : SProp2 x) (min k : Nat) (hk : 1 ≤ k ∧ k ≤ 15)
    {rest : List PTok} {out : PyAst × List PTok} (hstop : Stop (k + 1) rest)
    (hbare : ¬ (x.prec < min) → k < x.prec ∨ k = x.prec ∧ k ≠ 2 ∧ k ≠ 6 ∧ k ≠ 14)
    (hc : Ev (fun m => cont m k (embed x) rest) out) :
    Ev (fun m => parse m k (operand x min ++ rest)) out := by
  rw [operand_unfold]
  split
  · have hin := hS.expr (stop_of_none .rpar rest 2 rfl)
    by_cases hk' : k = 15
    · subst hk'; exact Ev_parens hin hc
    · exact Ev_descend (p := 15) (by omega) (Nat.le_refl _) (fun j _ _ => noPrefix_of_head rfl (.inr (.inl rfl)) j)
        (Ev_parens hin (Ev_exit_of_stop (hstop.mono (by omega)))) hstop hc
  · rename_i hb
    have := hbare hb
    exact hS k rest out hk.1 (by omega) hstop
      ⟨fun _ => hstop.mono (by omega), fun _ => hstop.mono (by omega), fun _ => hstop.mono (by omega)⟩ hc

end MV
