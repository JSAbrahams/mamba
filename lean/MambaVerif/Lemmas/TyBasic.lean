/-
Lemmas about the Name / TrueName layers of the assignability relation, for an ARBITRARY relation
`V` on variants (hence in particular for the class-table recursion `variantSup tbl fuel`): when
`tnSup` and `nameSup` answer `ok true`.
-/
import MambaVerif.Model.Ty

namespace MV

/-- no member comparison raises a type error or runs out of fuel -/
def NoErr (V : TName → TName → R) (s o : NameT) : Prop :=
  ∀ m ∈ s.names, ∀ n ∈ o.names, ∃ b, tnSup V m n = .ok b

/-- the emptiness guard of `tnSup` (on `TName.isEmpty`) and of `nameSup` (on `NameT.isEmpty`) composes -/
theorem emptyGuard_trans {a b c : Bool} : (!a && b) = false → (!b && c) = false → (!a && c) = false := by
  revert a b c; decide

variable (V : TName → TName → R)

/-- three orders must agree: emptiness, nullability, and the variants with `None` below every nullable type -/
theorem tnSup_true_iff (s o : TName) :
    tnSup V s o = .ok true ↔
      (!s.isEmpty && o.isEmpty) = false ∧ (o.nullable = true → s.nullable = true) ∧
        (V s o = .ok true ∨ (s.nullable = true ∧ o.isNull = true)) := by
  unfold tnSup
  cases (!s.isEmpty && o.isEmpty)
  · cases s.nullable
    · cases o.nullable <;> simp
    · cases o.isNull <;> simp
  · simp

/-- error-free answers are collected as they stand -/
theorem collectR_map_ok {α : Type} (f : α → R) : ∀ (xs : List α), (∀ x ∈ xs, ∃ b, f x = .ok b) →
    collectR (xs.map f) = .ok (xs.map fun x => decide (f x = .ok true))
  | [], _ => rfl
  | x :: xs, h => by
    obtain ⟨b, hb⟩ := h x (List.mem_cons_self ..)
    rw [List.map_cons, List.map_cons, hb, collectR, collectR_map_ok f xs fun y hy => h y (List.mem_cons_of_mem _ hy)]
    cases b <;> rfl

/-- the member loop of `Name::is_superset_of` for a non-interchangeable right-hand side -/
theorem go_true_iff (s o : NameT) (hi : o.inter = false) (acc : Bool) : ∀ (ns : List TName),
    (∀ m ∈ s.names, ∀ n ∈ ns, ∃ b, tnSup V m n = .ok b) →
    (nameSup.go V s o ns acc = .ok true ↔ ∀ n ∈ ns, ∃ m ∈ s.names, tnSup V m n = .ok true)
  | [], _ => by simp [nameSup.go, hi]
  | n :: more, h => by
    have ih := fun acc' => go_true_iff s o hi acc' more fun m hm n' hn' => h m hm n' (List.mem_cons_of_mem _ hn')
    rw [nameSup.go, collectR_map_ok _ _ fun m hm => h m hm n (List.mem_cons_self ..), List.forall_mem_cons]
    have hall : ((s.names.map fun m => decide (tnSup V m n = .ok true)).all fun b => !b) = true ↔
        ¬ ∃ m ∈ s.names, tnSup V m n = .ok true := by simp
    simp only [hi, Bool.not_false, Bool.true_and, hall]
    by_cases hn : ∃ m ∈ s.names, tnSup V m n = .ok true
    · rw [if_neg (not_not_intro hn), ih, and_iff_right hn]
    · rw [if_pos hn, iff_false_left (by simp)]; exact fun h => hn h.1

/-- `S ⊒ O`: the emptiness guard passes and every member of `O` is below some member of `S` -/
theorem nameSup_true_iff (s o : NameT) (hi : o.inter = false) (h : NoErr V s o) :
    nameSup V s o = .ok true ↔
      (!s.isEmpty && o.isEmpty) = false ∧ ∀ n ∈ o.names, ∃ m ∈ s.names, tnSup V m n = .ok true := by
  unfold nameSup
  cases (!s.isEmpty && o.isEmpty)
  · simp [go_true_iff V s o hi false o.names h]
  · simp

end MV
