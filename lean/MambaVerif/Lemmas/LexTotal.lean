/-
No Rust panic site of the lexer is reachable: the byte slice `cur_expr[0..len-1]` always ends on a
character boundary, and the nesting fuel of the model never runs out.
-/
import MambaVerif.Lemmas.LexBasic

namespace MV

/-- Invariant of the string scanner with `cs` still to read of a literal of `n` characters: no panic so
    far; outside braces no expression is being collected; the expression being collected and the rest
    fit in `n`; every completed expression is shorter than `n`. -/
structure StrScan.Inv (n : Nat) (cs : List Char) (s : StrScan) : Prop where
  noPanic : s.panicked = false
  closed : s.build ≤ 0 → s.curExpr = []
  room : s.curExpr.length + cs.length ≤ n
  short : ∀ pe ∈ s.exprs, pe.2.length < n

theorem curExprOf_of_le {c : Char} {s : StrScan} (h : s.build ≤ 0) : curExprOf c s = s.curExpr :=
  if_neg (Int.not_lt.mpr h)

theorem curExprOf_len (c : Char) (s : StrScan) : (curExprOf c s).length ≤ s.curExpr.length + 1 := by
  unfold curExprOf; split <;> simp

/-- the depth falls by at most one, and only at a closing brace -/
theorem buildOf_ge (c : Char) (s : StrScan) : s.build - 1 ≤ buildOf c s ∧ (c ≠ '}' → s.build ≤ buildOf c s) := by
  unfold buildOf
  split
  · exact ⟨by omega, fun _ => by omega⟩
  · split
    · exact ⟨by omega, fun h => absurd ‹_› h⟩
    · exact ⟨by omega, fun _ => by omega⟩

theorem exprDone_iff {c : Char} {s : StrScan} :
    exprDone c s = true ↔ buildOf c s = 0 ∧ curExprOf c s ≠ [] := by
  simp [exprDone]

/-- an expression is complete at the `}` that brings the depth back to 0 -/
theorem exprDone_cur {c : Char} {s : StrScan} (hb : s.build ≤ 0 → s.curExpr = [])
    (h : exprDone c s = true) : curExprOf c s = '}' :: s.curExpr := by
  obtain ⟨hz, hne⟩ := exprDone_iff.mp h
  by_cases hpos : s.build ≤ 0
  · rw [curExprOf_of_le hpos, hb hpos] at hne; exact absurd rfl hne
  · have hc : c = '}' := Decidable.byContradiction fun hc => by have := (buildOf_ge c s).2 hc; omega
    rw [hc]; exact if_pos (by omega)

theorem scanStep_inv {n : Nat} {c : Char} {cs : List Char} {s : StrScan} (h : s.Inv n (c :: cs)) :
    (scanStep c s).Inv n cs := by
  obtain ⟨hp, hb, hr, he⟩ := h
  rw [List.length_cons] at hr
  have hroom : (curExprOf c s).length + cs.length ≤ n := by have := curExprOf_len c s; omega
  have hcl (h : s.build ≤ 0) : curExprOf c s = [] := (curExprOf_of_le h).trans (hb h)
  unfold scanStep
  by_cases hbs : s.backSlash = true
  · -- an escaped character: the depth stays
    rw [if_pos hbs]
    exact ⟨hp, hcl, hroom, he⟩
  rw [if_neg hbs]
  by_cases hd : exprDone c s = true
  · -- an expression is complete: `curExpr` and the closing brace, which is one byte long
    rw [if_pos hd]
    have hcur := exprDone_cur hb hd
    refine ⟨?_, fun _ => rfl, by show 0 + cs.length ≤ n; omega, fun pe hpe => ?_⟩
    · simp only [hcur, hp, List.head?_cons]; rfl
    · simp only [hcur, List.tail_cons] at hpe
      split at hpe
      · exact he pe hpe
      · rcases List.mem_cons.mp hpe with rfl | hpe
        · rw [List.length_reverse]; omega
        · exact he pe hpe
  · rw [if_neg hd]
    refine ⟨hp, fun hle => ?_, hroom, he⟩
    by_cases hpos : s.build ≤ 0
    · exact hcl hpos
    · -- the depth is back at 0: an expression that is not empty would be complete
      have hz : buildOf c s = 0 := by have := (buildOf_ge c s).1; simp only at hle; omega
      exact Decidable.byContradiction fun hne => hd (exprDone_iff.mpr ⟨hz, hne⟩)

theorem scanStr_inv {n : Nat} {cs : List Char} {s : StrScan} (h : s.Inv n cs) :
    (scanStr cs s).panicked = false ∧ ∀ pe ∈ (scanStr cs s).exprs, pe.2.length < n := by
  fun_induction scanStr cs s with
  | case1 | case2 => exact ⟨h.noPanic, h.short⟩
  | case3 _ _ _ _ ih => exact ih (scanStep_inv h)

/-- a result that is not a panic -/
def LexRes.NoPanic {α : Type} : LexRes α → Prop
  | .panic _ => False
  | _ => True

theorem nestedAll_noPanic (nested : List Char → LexRes (List Lex)) (pos : CaretPos)
    (exprs : List (List Char × List Char)) (h : ∀ pe ∈ exprs, (nested pe.2).NoPanic) :
    (nestedAll nested pos exprs).NoPanic := by
  induction exprs with
  | nil => trivial
  | cons x xs ih =>
    obtain ⟨pre, e⟩ := x
    have hx : (nested e).NoPanic := h _ List.mem_cons_self
    have hxs := ih fun pe hpe => h pe (List.mem_cons_of_mem _ hpe)
    rw [nestedAll]
    cases hn : nested e with
    | err p => trivial
    | panic n => rw [hn] at hx; exact hx
    | ok toks =>
      cases hr : nestedAll nested pos xs with
      | err p => trivial
      | panic n => rw [hr] at hxs; exact hxs
      | ok more => trivial

/-- the dispatch reaches no panic site as long as the nested lexer reaches none on shorter texts -/
theorem classify_noPanic (nested : List Char → LexRes (List Lex)) (pos : CaretPos) (c : Char) (rest : List Char)
    (hn : ∀ e : List Char, e.length < rest.length → (nested e).NoPanic) (n : Nat) :
    classify nested pos c rest ≠ .panic n := by
  intro h
  cases classify_spec h with
  | strPanic hp =>
    obtain ⟨h1, h2⟩ := scanStr_inv (n := rest.length) (cs := rest) (s := StrScan.init)
      ⟨rfl, fun _ => rfl, Nat.le_of_eq (Nat.zero_add _), fun _ h => nomatch h⟩
    rcases hp with hp | hp
    · rw [h1] at hp; cases hp
    · have := nestedAll_noPanic nested pos _ fun pe hpe => hn _ (h2 pe (List.mem_reverse.mp hpe))
      rw [hp] at this; exact this

end MV
