/-
Soundness of the static disciplines of `Model/Scope.lean` with respect to the dynamic semantics.
-/
import MambaVerif.Model.Scope

namespace MV.SL

variable (par : Parents) (h : Nat) (rs : Raises)

/-- every statically visible name is dynamically bound -/
def Sub (Γ : SEnv) (σ : List Name) : Prop := ∀ x, (Γ.lookup x).isSome = true → x ∈ σ

/-- inside a function a raised class is caught by an enclosing arm or declared -/
def Covered (Γ : SEnv) (c : Cls) : Prop := Γ.inFun = true → ∃ d ∈ Γ.caught, isAncestor par h d c = true

def GoodE (Γ : SEnv) (σ : List Name) : Out → Prop
  | .ok σ' => ∀ x ∈ σ, x ∈ σ'
  | .raised c => Covered par h Γ c
  | .unbound _ => False

def GoodS (Γ Γ' : SEnv) (σ : List Name) : Out → Prop
  | .ok σ' => (∀ x ∈ σ, x ∈ σ') ∧ Sub Γ' σ'
  | .raised c => Covered par h Γ c
  | .unbound _ => False

/-- the fuel `h` of the ancestor test is at least the height of the class table: the test is transitive -/
def FuelSuffices : Prop := ∀ a b c, isAncestor par h a b = true → isAncestor par h b c = true → isAncestor par h a c = true

variable {par h rs} {Γ Γ' : SEnv} {σ σ₁ σ' : List Name} {o : Out}
  {x : Name} {c : Cls} {e e' : Expr} {s t : Stmt} {arms : Arms}

theorem lookup_cons (Γ : SEnv) (x y : Name) (m : Bool) :
    ({ Γ with vars := (x, m) :: Γ.vars } : SEnv).lookup y = if x = y then some m else Γ.lookup y := by
  by_cases hxy : x = y <;> simp [SEnv.lookup, hxy]

theorem lookup_cons_self (Γ : SEnv) (x : Name) (m : Bool) :
    ({ Γ with vars := (x, m) :: Γ.vars } : SEnv).lookup x = some m :=
  (lookup_cons Γ x x m).trans (if_pos rfl)

theorem Sub.mono (hs : Sub Γ σ) (hσ : σ ⊆ σ') : Sub Γ σ' :=
  fun x hx => hσ (hs x hx)

theorem Sub.cons (hs : Sub Γ σ) (x : Name) (m : Bool) : Sub { Γ with vars := (x, m) :: Γ.vars } (x :: σ) := by
  intro y hy
  rw [lookup_cons] at hy
  by_cases hxy : x = y
  · exact hxy ▸ List.mem_cons_self
  · rw [if_neg hxy] at hy
    exact List.mem_cons_of_mem _ (hs y hy)

/-- statements change the visible names only -/
theorem checkS_env : ∀ (s : Stmt) (Γ : SEnv),
    (checkS par h rs Γ s).2.caught = Γ.caught ∧ (checkS par h rs Γ s).2.inFun = Γ.inFun
  | .seq a b => fun Γ =>
    have h1 := checkS_env a Γ
    have h2 := checkS_env b (checkS par h rs Γ a).2
    ⟨h2.1.trans h1.1, h2.2.trans h1.2⟩
  | .skip | .defv _ _ _ | .assign _ _ | .expr _ | .ifS _ _ _ | .whileS _ _ | .forS _ _ _ | .raiseS _ =>
    fun _ => ⟨rfl, rfl⟩

theorem covered_iff (hin : Γ.inFun = true) :
    Covered par h Γ c ↔ (Γ.caught.any fun d => isAncestor par h d c) = true := by
  simp only [Covered, hin, forall_const, List.any_eq_true]

theorem mem_uncaught {cs : List Cls} {err : Err} :
    err ∈ uncaught par h Γ cs ↔ ∃ c ∈ cs, ¬ Covered par h Γ c ∧ .raise c = err := by
  unfold uncaught
  by_cases hin : Γ.inFun = true
  · simp only [if_pos hin, List.mem_map, List.mem_filter, covered_iff hin, Bool.not_eq_true', Bool.not_eq_true,
      and_assoc]
  · simp [Covered, hin]

theorem uncaught_nil {cs : List Cls} (hu : uncaught par h Γ cs = []) : ∀ c ∈ cs, Covered par h Γ c :=
  fun c hc => Classical.byContradiction fun hn =>
    List.not_mem_nil (hu ▸ mem_uncaught.mpr ⟨c, hc, hn, rfl⟩)

theorem not_covered (hin : Γ.inFun = true) (hno : ∀ d ∈ Γ.caught, isAncestor par h d c = false) :
    ¬ Covered par h Γ c :=
  fun hc => let ⟨d, hd, ha⟩ := hc hin; Bool.false_ne_true ((hno d hd).symm.trans ha)

theorem selectArm_cons {d : Cls} :
    selectArm par h (.cons d x s arms) c = if isAncestor par h d c then some (x, s) else selectArm par h arms c :=
  rfl

theorem selectArm_none : ∀ {arms : Arms}, selectArm par h arms c = none →
    ∀ d ∈ armClasses arms, isAncestor par h d c = false
  | .nil => fun _ _ hd => nomatch hd
  | .cons .. => fun hn d hd => by
    rw [selectArm_cons] at hn
    split at hn
    next => cases hn
    next hne =>
      rcases List.mem_cons.mp hd with rfl | hd
      · exact Bool.eq_false_iff.mpr hne
      · exact selectArm_none hn d hd

/-- a class that passes all arms of a handle and is covered with them is covered without them -/
theorem covered_of_miss (hsel : selectArm par h arms c = none)
    (hc : Covered par h { Γ with caught := armClasses arms ++ Γ.caught } c) : Covered par h Γ c := by
  intro hin
  obtain ⟨d, hd, ha⟩ := hc hin
  rcases List.mem_append.mp hd with hd | hd
  · exact absurd ha (Bool.eq_false_iff.mp (selectArm_none hsel d hd))
  · exact ⟨d, hd, ha⟩

/- What acceptance says, form by form.  `checkE` / `checkS` are used through these and never unfolded:
   their equation lemmas are dear to generate. -/

theorem checkE_var : checkE par h rs Γ (.var x) = if (Γ.lookup x).isSome then [] else [.undefined x] :=
  rfl

theorem checkE_var_nil : checkE par h rs Γ (.var x) = [] ↔ (Γ.lookup x).isSome = true := by
  rw [checkE_var]
  split <;> simp [*]

theorem checkE_bin_nil :
    checkE par h rs Γ (.bin e e') = [] ↔ checkE par h rs Γ e = [] ∧ checkE par h rs Γ e' = [] :=
  List.append_eq_nil_iff

theorem checkE_call_nil :
    checkE par h rs Γ (.call x e) = [] ↔ checkE par h rs Γ e = [] ∧ uncaught par h Γ (rs x) = [] :=
  List.append_eq_nil_iff

theorem checkE_handle_nil :
    checkE par h rs Γ (.handle e arms) = [] ↔
      checkE par h rs { Γ with caught := armClasses arms ++ Γ.caught } e = [] ∧ checkArms par h rs Γ arms = [] :=
  List.append_eq_nil_iff

theorem checkArms_cons_nil :
    checkArms par h rs Γ (.cons c x s arms) = [] ↔
      (checkS par h rs { Γ with vars := (x, true) :: Γ.vars } s).1 = [] ∧ checkArms par h rs Γ arms = [] :=
  List.append_eq_nil_iff

theorem checkS_seq_nil :
    (checkS par h rs Γ (.seq s t)).1 = [] ↔
      (checkS par h rs Γ s).1 = [] ∧ (checkS par h rs (checkS par h rs Γ s).2 t).1 = [] :=
  List.append_eq_nil_iff

theorem checkS_assign :
    (checkS par h rs Γ (.assign x e)).1 = checkE par h rs Γ e ++
      match Γ.lookup x with
      | some true => []
      | some false => [.mutability x]
      | none => [.undefined x] :=
  rfl

theorem checkS_assign_nil :
    (checkS par h rs Γ (.assign x e)).1 = [] ↔ checkE par h rs Γ e = [] ∧ Γ.lookup x = some true := by
  rw [checkS_assign, List.append_eq_nil_iff]
  split <;> simp [*]

theorem checkS_ifS_nil :
    (checkS par h rs Γ (.ifS e s t)).1 = [] ↔
      checkE par h rs Γ e = [] ∧ (checkS par h rs Γ s).1 = [] ∧ (checkS par h rs Γ t).1 = [] := by
  show _ ++ _ ++ _ = [] ↔ _
  rw [List.append_eq_nil_iff, List.append_eq_nil_iff, and_assoc]

theorem checkS_whileS_nil :
    (checkS par h rs Γ (.whileS e s)).1 = [] ↔ checkE par h rs Γ e = [] ∧ (checkS par h rs Γ s).1 = [] :=
  List.append_eq_nil_iff

theorem checkS_forS_nil :
    (checkS par h rs Γ (.forS x e s)).1 = [] ↔
      checkE par h rs Γ e = [] ∧ (checkS par h rs { Γ with vars := (x, true) :: Γ.vars } s).1 = [] :=
  List.append_eq_nil_iff

theorem selectArm_some : ∀ {arms : Arms}, selectArm par h arms c = some (x, s) → checkArms par h rs Γ arms = [] →
    (checkS par h rs { Γ with vars := (x, true) :: Γ.vars } s).1 = []
  | .nil => fun hs => nomatch hs
  | .cons .. => fun hs hc => by
    obtain ⟨h1, h2⟩ := checkArms_cons_nil.mp hc
    rw [selectArm_cons] at hs
    split at hs
    · cases hs; exact h1
    · exact selectArm_some hs h2

/-- the invariant survives a smaller starting frame -/
theorem GoodE.weaken (hσ : σ ⊆ σ₁) (g : GoodE par h Γ σ₁ o) : GoodE par h Γ σ o := by
  cases o with
  | ok σ' => exact fun x hx => g x (hσ hx)
  | _ => exact g

theorem GoodS.weaken (hσ : σ ⊆ σ₁) (g : GoodS par h Γ Γ' σ₁ o) : GoodS par h Γ Γ' σ o := by
  cases o with
  | ok σ' => exact ⟨fun x hx => g.1 x (hσ hx), g.2⟩
  | _ => exact g

/-- what is covered for the rest of a block is covered for the block -/
theorem GoodS.of_checkS (g : GoodS par h (checkS par h rs Γ s).2 Γ' σ o) : GoodS par h Γ Γ' σ o := by
  cases o with
  | raised c =>
    unfold GoodS Covered at g
    rwa [(checkS_env s Γ).1, (checkS_env s Γ).2] at g
  | _ => exact g

/-- leaving a block: its definitions are forgotten -/
theorem GoodS.toE (g : GoodS par h Γ Γ' σ o) : GoodE par h Γ σ o := by
  cases o with
  | ok σ' => exact g.1
  | _ => exact g

/-- a statement that defines nothing hands on the environment it got -/
theorem GoodE.toS (hs : Sub Γ σ) (g : GoodE par h Γ σ o) : GoodS par h Γ Γ σ o := by
  cases o with
  | ok σ' => exact ⟨g, hs.mono g⟩
  | _ => exact g

variable (par h rs)

/-- an accepted statement never reads an unbound name, raises only covered classes, and the environment it
    hands to the next statement is bound -/
theorem soundS (htrans : FuelSuffices par h) : ∀ {σ : List Name} {s : Stmt} {o : Out}, Exec par h rs σ s o →
    ∀ (Γ : SEnv), Sub Γ σ → (checkS par h rs Γ s).1 = [] → GoodS par h Γ (checkS par h rs Γ s).2 σ o := by
  intro σ s o hex Γ hs hc
  -- by the recursor of the mutual `Eval` / `Exec`: structural recursion over the derivations is an order of
  -- magnitude dearer to compile
  induction hex using Exec.rec
    (motive_1 := fun σ e o _ => ∀ Γ, Sub Γ σ → checkE par h rs Γ e = [] → GoodE par h Γ σ o) generalizing Γ with
  | lit | varOk => exact fun _ hx => hx
  | varUnbound hx Γ hs hc => exact hx (hs _ (checkE_var_nil.mp hc))
  | binOk _ _ iha ihb Γ hs hc =>
    obtain ⟨hca, hcb⟩ := checkE_bin_nil.mp hc
    have hσ := iha Γ hs hca
    exact (ihb Γ (hs.mono hσ) hcb).weaken hσ
  | binRaise _ ih Γ hs hc | binUnbound _ ih Γ hs hc => exact ih Γ hs (checkE_bin_nil.mp hc).1
  | callArgRaise _ ih Γ hs hc | callArgUnbound _ ih Γ hs hc | callOk _ ih Γ hs hc =>
    exact ih Γ hs (checkE_call_nil.mp hc).1
  | @callRaise _ _ _ _ c d _ hd hanc _ Γ hs hc =>
    -- the checker finds an ancestor `d'` of the DECLARED class `d`; the raised class is a subclass of `d`
    intro hin
    obtain ⟨d', hd', ha'⟩ := uncaught_nil (checkE_call_nil.mp hc).2 d hd hin
    exact ⟨d', hd', htrans d' d c ha' hanc⟩
  | @handleOk _ _ _ arms _ ih Γ hs hc =>
    exact ih { Γ with caught := armClasses arms ++ Γ.caught } hs (checkE_handle_nil.mp hc).1
  | @handleUnbound _ _ arms _ _ ih Γ hs hc =>
    exact ih { Γ with caught := armClasses arms ++ Γ.caught } hs (checkE_handle_nil.mp hc).1
  | @handleMiss _ _ arms _ _ hsel ih Γ hs hc =>
    exact covered_of_miss hsel (ih { Γ with caught := armClasses arms ++ Γ.caught } hs (checkE_handle_nil.mp hc).1)
  | @handleHit σ _ _ _ x _ _ _ hsel _ _ ihb Γ hs hc =>
    have g := ihb _ (hs.cons x true) (selectArm_some hsel (checkE_handle_nil.mp hc).2)
    exact g.toE.weaken (List.subset_cons_self x σ)
  | skip => exact ⟨fun _ hx => hx, hs⟩
  | seqOk _ _ iha ihb =>
    obtain ⟨hca, hcb⟩ := checkS_seq_nil.mp hc
    obtain ⟨hσ, hs1⟩ := iha Γ hs hca
    exact ((ihb _ hs1 hcb).weaken hσ).of_checkS
  | seqRaise _ ih | seqUnbound _ ih => exact (ih Γ hs (checkS_seq_nil.mp hc).1).toE
  | @defOk _ _ x _ _ _ ih =>
    have hσ := ih Γ hs hc
    exact ⟨List.subset_cons_of_subset x hσ, (hs.mono hσ).cons x _⟩
  | defRaise _ ih | defUnbound _ ih => exact ih Γ hs hc
  | @assignOk _ _ x _ _ ih =>
    have hσ := List.subset_cons_of_subset x (ih Γ hs (checkS_assign_nil.mp hc).1)
    exact ⟨hσ, hs.mono hσ⟩
  | assignRaise _ ih | assignUnbound _ ih => exact ih Γ hs (checkS_assign_nil.mp hc).1
  | exprS _ ih => exact (ih Γ hs hc).toS hs
  | ifCondBad _ _ ih => exact (ih Γ hs (checkS_ifS_nil.mp hc).1).toS hs
  | ifThen _ _ ihc iht =>
    obtain ⟨hcc, hct, -⟩ := checkS_ifS_nil.mp hc
    have hσ := ihc Γ hs hcc
    exact ((iht Γ (hs.mono hσ) hct).toE.weaken hσ).toS hs
  | ifElse _ _ ihc ihe =>
    obtain ⟨hcc, -, hce⟩ := checkS_ifS_nil.mp hc
    have hσ := ihc Γ hs hcc
    exact ((ihe Γ (hs.mono hσ) hce).toE.weaken hσ).toS hs
  | whileCondBad _ _ ih | whileDone _ ih => exact (ih Γ hs (checkS_whileS_nil.mp hc).1).toS hs
  | whileBodyBad _ _ _ ihc ihb =>
    obtain ⟨hcc, hcb⟩ := checkS_whileS_nil.mp hc
    have hσ := ihc Γ hs hcc
    exact ((ihb Γ (hs.mono hσ) hcb).toE.weaken hσ).toS hs
  | whileStep _ _ _ ihc ihb ihl =>
    obtain ⟨hcc, hcb⟩ := checkS_whileS_nil.mp hc
    have hσ := ihc Γ hs hcc
    have hσ2 := List.Subset.trans hσ (ihb Γ (hs.mono hσ) hcb).1
    exact (ihl Γ (hs.mono hσ2) hc).weaken hσ2
  | forBad _ _ ih | forDone _ ih => exact (ih Γ hs (checkS_forS_nil.mp hc).1).toS hs
  | @forStep _ _ x _ _ _ _ _ ihe ihl =>
    obtain ⟨hce, hcb⟩ := checkS_forS_nil.mp hc
    have hσ := ihe Γ hs hce
    have g := ihl _ ((hs.mono hσ).cons x true) (checkS_whileS_nil.mpr ⟨rfl, hcb⟩)
    exact (g.toE.weaken (List.subset_cons_of_subset x hσ)).toS hs
  | raiseS => exact uncaught_nil hc _ List.mem_cons_self

/-- an accepted expression never reads an unbound name, and raises only covered classes -/
theorem soundE (htrans : FuelSuffices par h) : ∀ {σ : List Name} {e : Expr} {o : Out}, Eval par h rs σ e o →
    ∀ (Γ : SEnv), Sub Γ σ → checkE par h rs Γ e = [] → GoodE par h Γ σ o :=
  fun hev Γ hs hc => (soundS par h rs htrans (.exprS hev) Γ hs hc).toE

end MV.SL
