/-
Position-independence of the lexer: what the parser consumes of a token stream (kinds and
texts, comments dropped) depends on the text and on the indentation state only, never on carets.
-/
import MambaVerif.Lemmas.LexRun

namespace MV

/-- what the parser sees of a token (positions dropped) -/
def Lex.shape (l : Lex) : Tok := l.tok

/-- `parse/mod.rs`: comments are filtered out before parsing -/
def noComments (ts : List Tok) : List Tok := ts.filter (fun t => t.kind != .Comment)

def shapes (ls : List Lex) : List Tok := ls.map Lex.shape

/-- the caret-free part of the lexer state -/
structure LState.Sh where
  nls : Nat
  curIndent : Nat
  lineIndent : Nat
  tokenThisLine : Bool
  deriving DecidableEq

def LState.sh (st : LState) : LState.Sh := ⟨st.newlines.length, st.curIndent, st.lineIndent, st.tokenThisLine⟩

/-- buffered newlines are exactly NL tokens -/
def NLInv (st : LState) : Prop := ∀ l ∈ st.newlines, l.tok = Kind.NL.tok

theorem NLInv.allNL {st : LState} (h : NLInv st) : AllNL st.newlines := by
  intro l hl; unfold Lex.kind; rw [h l hl]; rfl

theorem shapes_append (a b : List Lex) : shapes (a ++ b) = shapes a ++ shapes b := by simp [shapes]
@[simp] theorem Lex.new_shape (p : CaretPos) (t : Tok) (n : List (List Lex)) : (Lex.new p t n).shape = t := rfl

theorem shapes_of_nl {st : LState} (h : NLInv st) : shapes st.newlines = List.replicate st.sh.nls Kind.NL.tok :=
  List.eq_replicate_iff.mpr ⟨List.length_map _, fun t ht => by
    obtain ⟨l, hl, rfl⟩ := List.mem_map.mp ht; exact h l hl⟩

theorem layout_shape {st1 st2 : LState} (h : st1.sh = st2.sh) (h1 : NLInv st1) (h2 : NLInv st2) :
    shapes st1.layout = shapes st2.layout := by
  -- the shape of `layout` is a function of `sh` and of the shapes of the buffered newlines
  have key (st : LState) : shapes st.layout = (shapes st.newlines).getLast?.toList ++
      (if LState.level st.sh.lineIndent ≥ LState.level st.sh.curIndent
        then List.replicate (LState.level st.sh.lineIndent - LState.level st.sh.curIndent) Kind.Indent.tok
        else List.replicate (LState.level st.sh.curIndent - LState.level st.sh.lineIndent) Kind.Dedent.tok ++ [Kind.NL.tok])
      ++ (shapes st.newlines).dropLast := by
    unfold LState.layout
    simp only [shapes_append]
    congr 2
    · simp [shapes, Option.toList_map]
    · show _ = if LState.level st.lineIndent ≥ LState.level st.curIndent then _ else _
      split <;> simp [shapes] <;> rfl
    · simp [shapes]
  rw [key, key, shapes_of_nl h1, shapes_of_nl h2, h]

theorem nlInv_newline {st : LState} (h : NLInv st) : NLInv st.newline :=
  fun l hl => (LState.mem_newline hl).elim (h l) fun e => by rw [e]; rfl

/-- a line break forgets the indentation of the line and whether it held a token -/
theorem newline_sh {st1 st2 : LState} (hn : st1.newlines.length = st2.newlines.length)
    (hc : st1.curIndent = st2.curIndent) : st1.newline.sh = st2.newline.sh := by
  simp [LState.sh, LState.newline, hn, hc]

theorem space_sh {st1 st2 : LState} (h : st1.sh = st2.sh) : st1.space.sh = st2.space.sh :=
  congrArg (fun s => (⟨s.nls, s.curIndent, s.lineIndent + (if s.tokenThisLine then 0 else 1), s.tokenThisLine⟩ : LState.Sh)) h

theorem token_shape {st1 st2 : LState} (t : Tok) (n1 n2 : List (List Lex))
    (h : st1.sh = st2.sh) (h1 : NLInv st1) (h2 : NLInv st2) :
    shapes (st1.token t n1).1 = shapes (st2.token t n2).1
    ∧ (st1.token t n1).2.sh = (st2.token t n2).2.sh
    ∧ NLInv (st1.token t n1).2 ∧ NLInv (st2.token t n2).2 := by
  by_cases hk : t.kind = .NL
  · rw [LState.token_nl hk, LState.token_nl hk]
    exact ⟨rfl, newline_sh (congrArg LState.Sh.nls h) (congrArg LState.Sh.curIndent h), nlInv_newline h1, nlInv_newline h2⟩
  · rw [LState.token_of_ne hk, LState.token_of_ne hk]
    refine ⟨?_, congrArg (fun s : LState.Sh => (⟨0, s.lineIndent, s.lineIndent, true⟩ : LState.Sh)) h, ?_, ?_⟩
    · simp only [shapes_append, layout_shape h h1 h2]; rfl
    all_goals intro l hl; cases hl

/-- two dispatch results agree up to carets inside nested token lists -/
def Cls.ShEq : Cls → Cls → Prop
  | .tok t _ k, .tok t' _ k' => t = t' ∧ k = k'
  | .space, .space => True
  | .err, .err => True
  | .nestedErr p, .nestedErr p' => p = p'
  | .panic a, .panic b => a = b
  | _, _ => False

theorem Cls.ShEq.refl (a : Cls) : Cls.ShEq a a := by
  cases a <;> simp [Cls.ShEq]

/-- whether the nested expressions lex, and the error they give, does not depend on the caret -/
theorem nestedAll_status (nested : List Char → LexRes (List Lex)) (p1 p2 : CaretPos)
    (exprs : List (List Char × List Char)) :
    match nestedAll nested p1 exprs, nestedAll nested p2 exprs with
    | .ok _, .ok _ => True
    | .err a, .err b => a = b
    | .panic a, .panic b => a = b
    | _, _ => False := by
  induction exprs with
  | nil => simp [nestedAll]
  | cons x xs ih =>
    obtain ⟨pre, e⟩ := x
    simp only [nestedAll]
    cases hn : nested e with
    | err p => simp
    | panic n => simp
    | ok toks =>
      simp only []
      cases h1 : nestedAll nested p1 xs <;> cases h2 : nestedAll nested p2 xs <;> simp_all

theorem strCls_shape (nested : List Char → LexRes (List Lex)) (p1 p2 : CaretPos) (rest : List Char) :
    Cls.ShEq (strCls nested p1 rest) (strCls nested p2 rest) := by
  unfold strCls
  simp only []
  split
  · trivial
  split
  · trivial
  have := nestedAll_status nested p1 p2 (scanStr rest StrScan.init).exprs.reverse
  revert this
  cases nestedAll nested p1 (scanStr rest StrScan.init).exprs.reverse <;>
    cases nestedAll nested p2 (scanStr rest StrScan.init).exprs.reverse <;>
    simp [Cls.ShEq]

/-- only the `'"'` arm of the dispatch looks at the caret -/
theorem classify_shape (nested : List Char → LexRes (List Lex)) (p1 p2 : CaretPos) (c : Char)
    (rest : List Char) : Cls.ShEq (classify nested p1 c rest) (classify nested p2 c rest) := by
  by_cases h : c = '"'
  · subst h; rw [classify_quote, classify_quote]; exact strCls_shape nested p1 p2 rest
  · rw [classify_congr h nested nested p1 p2]; exact Cls.ShEq.refl _

/-- results of two runs agree up to carets -/
def RunShEq : LexRes (List Lex × LState) → LexRes (List Lex × LState) → Prop
  | .ok (t1, s1), .ok (t2, s2) => shapes t1 = shapes t2 ∧ s1.sh = s2.sh ∧ NLInv s1 ∧ NLInv s2
  | .err _, .err _ => True
  | .panic a, .panic b => a = b
  | _, _ => False

theorem RunShEq.prepend {a b : List Lex} (hab : shapes a = shapes b) {r1 r2 : LexRes (List Lex × LState)}
    (h : RunShEq r1 r2) : RunShEq (prepend a r1) (prepend b r2) := by
  rcases r1 with ⟨t1, s1⟩ | _ | _ <;> rcases r2 with ⟨t2, s2⟩ | _ | _ <;> try exact h
  exact ⟨by rw [shapes_append, shapes_append, hab, h.1], h.2⟩

/-- the lexer's output shape is a function of the text and the caret-free state -/
theorem run_shape (nested : List Char → LexRes (List Lex)) (cs : List Char) :
    ∀ (skip : Nat) (st1 st2 : LState), st1.sh = st2.sh → NLInv st1 → NLInv st2 →
    RunShEq (run nested cs skip st1) (run nested cs skip st2) := by
  induction cs with
  | nil => exact fun _ _ _ h h1 h2 => ⟨rfl, h, h1, h2⟩
  | cons c rest ih =>
    intro skip st1 st2 h h1 h2
    cases skip with
    | succ k => exact ih k st1 st2 h h1 h2
    | zero =>
      have hcs := classify_shape nested st1.pos st2.pos c rest
      cases hc1 : classify nested st1.pos c rest <;> cases hc2 : classify nested st2.pos c rest <;>
        rw [hc1, hc2] at hcs <;> try exact hcs.elim
      · obtain ⟨rfl, rfl⟩ := hcs
        obtain ⟨e1, e2, e3, e4⟩ := token_shape _ _ _ h h1 h2
        rw [run_cons_tok hc1, run_cons_tok hc2]
        exact .prepend e1 (ih _ _ _ e2 e3 e4)
      · rw [run_cons_space hc1, run_cons_space hc2]
        exact ih 0 _ _ (space_sh h) h1 h2
      all_goals simp only [run, step, hc1, hc2]; first | exact hcs | trivial

end MV
