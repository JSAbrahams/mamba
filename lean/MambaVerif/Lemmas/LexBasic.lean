/-
Helper lemmas about the lexer model: the indentation depth `bal`, what `State::token` emits, and the
character dispatch `classify` described arm by arm (`ClsSpec`), which is how every later proof looks at it.
-/
import MambaVerif.Model.Lex

namespace MV

/-- running indentation depth: `none` if a dedent occurs at depth 0 -/
def bal : Nat → List Lex → Option Nat
  | d, [] => some d
  | d, l :: ls =>
    if l.kind = .Indent then bal (d + 1) ls
    else if l.kind = .Dedent then (if d = 0 then none else bal (d - 1) ls)
    else bal d ls

def AllNL (ls : List Lex) : Prop := ∀ l ∈ ls, l.kind = .NL
def NoEof (ls : List Lex) : Prop := ∀ l ∈ ls, l.kind ≠ .Eof

@[simp] theorem Kind.tok_kind (k : Kind) : k.tok.kind = k := rfl
@[simp] theorem Lex.new_kind (p : CaretPos) (t : Tok) (n : List (List Lex)) : (Lex.new p t n).kind = t.kind := rfl

def isDent (k : Kind) : Bool := k == .Indent || k == .Dedent

theorem bal_cons_of_not_dent {l : Lex} (h : isDent l.kind = false) (d : Nat) (ls : List Lex) :
    bal d (l :: ls) = bal d ls := by
  simp only [isDent, Bool.or_eq_false_iff, beq_eq_false_iff_ne] at h
  rw [bal, if_neg h.1, if_neg h.2]

/-- the depth depends on the indentation tokens only -/
theorem bal_filter (d : Nat) (ls : List Lex) : bal d (ls.filter (fun l => isDent l.kind)) = bal d ls := by
  induction ls generalizing d with
  | nil => rfl
  | cons l ls ih =>
    rw [List.filter_cons]
    split
    · simp only [bal, ih]
    · rename_i h
      rw [ih, bal_cons_of_not_dent (by simpa using h)]

theorem bal_append (d : Nat) (a b : List Lex) :
    bal d (a ++ b) = (bal d a).bind (fun d' => bal d' b) := by
  fun_induction bal d a <;> simp [bal, *]

theorem bal_allNL {ls : List Lex} (h : AllNL ls) (d : Nat) : bal d ls = some d := by
  rw [← bal_filter, List.filter_eq_nil_iff.mpr (fun l hl => by rw [h l hl]; decide)]; rfl

theorem bal_replicate_indent (p : CaretPos) (d n : Nat) :
    bal d (List.replicate n (Lex.new p Kind.Indent.tok)) = some (d + n) := by
  induction n generalizing d with
  | zero => rfl
  | succ n ih =>
    have hk : (Lex.new p Kind.Indent.tok).kind = .Indent := rfl
    rw [List.replicate_succ, bal, if_pos hk, ih, Nat.add_right_comm, Nat.add_assoc]

theorem bal_replicate_dedent (p : CaretPos) (d n : Nat) (h : n ≤ d) :
    bal d (List.replicate n (Lex.new p Kind.Dedent.tok)) = some (d - n) := by
  induction n generalizing d with
  | zero => rfl
  | succ n ih =>
    have hk : (Lex.new p Kind.Dedent.tok).kind = .Dedent := rfl
    rw [List.replicate_succ, bal, hk, if_neg (by decide), if_pos rfl, if_neg (by omega), ih _ (by omega),
      Nat.sub_sub, Nat.add_comm]

theorem allNL_getLast {ls : List Lex} (h : AllNL ls) : AllNL ls.getLast?.toList :=
  fun l hl => h l (List.mem_of_getLast? (Option.mem_toList.mp hl))

theorem allNL_dropLast {ls : List Lex} (h : AllNL ls) : AllNL ls.dropLast :=
  fun l hl => h l (List.dropLast_subset _ hl)

theorem layout_bal (st : LState) (h : AllNL st.newlines) :
    bal (LState.level st.curIndent) st.layout = some (LState.level st.lineIndent) := by
  -- the buffered newlines on either side do not count; the dents lead from the current level to the line's
  simp only [LState.layout, bal_append, bal_allNL (allNL_getLast h), bal_allNL (allNL_dropLast h),
    Option.bind_some, Option.bind_fun_some]
  split
  · rw [bal_replicate_indent]; congr 1; omega
  · rw [bal_append, bal_replicate_dedent _ _ _ (Nat.sub_le _ _), Option.bind_some, bal_cons_of_not_dent rfl]
    show some _ = _
    congr 1; omega

/-- the tokens `layout` puts in front of a token are buffered newlines and indentation tokens -/
theorem layout_kind (st : LState) (h : AllNL st.newlines) :
    ∀ l ∈ st.layout, l.kind = .NL ∨ l.kind = .Indent ∨ l.kind = .Dedent := by
  intro l hl
  unfold LState.layout at hl
  simp only [List.mem_append] at hl
  rcases hl with (hl | hl) | hl
  · exact .inl (allNL_getLast h l hl)
  · split at hl
    · rw [(List.mem_replicate.mp hl).2]; exact .inr (.inl rfl)
    · simp only [List.mem_append, List.mem_replicate, List.mem_singleton] at hl
      rcases hl with hl | hl
      · rw [hl.2]; exact .inr (.inr rfl)
      · rw [hl]; exact .inl rfl
  · exact .inl (allNL_dropLast h l hl)

theorem LState.token_nl {t : Tok} (h : t.kind = .NL) (st : LState) (nest : List (List Lex)) :
    st.token t nest = ([], st.newline) := if_pos h

theorem LState.token_of_ne {t : Tok} (h : t.kind ≠ .NL) (st : LState) (nest : List (List Lex)) :
    st.token t nest = (st.layout ++ [Lex.new st.pos t nest],
      { st with newlines := [], tokenThisLine := true, curIndent := st.lineIndent,
                pos := st.pos.advanceOver t.text }) := if_neg h

theorem LState.mem_newline {st : LState} {l : Lex} (h : l ∈ st.newline.newlines) :
    l ∈ st.newlines ∨ l = Lex.new st.pos Kind.NL.tok :=
  (List.mem_append.mp h).imp_right List.mem_singleton.mp

theorem allNL_newline {st : LState} (h : AllNL st.newlines) : AllNL st.newline.newlines :=
  fun l hl => (LState.mem_newline hl).elim (h l) fun e => by rw [e]; rfl

/-- kinds the character dispatch may produce: never the synthetic `Indent/Dedent/Eof` -/
def GoodKind (k : Kind) : Prop := k ≠ .Indent ∧ k ≠ .Dedent ∧ k ≠ .Eof
instance (k : Kind) : Decidable (GoodKind k) := by unfold GoodKind; infer_instance

/-- effect of `State::token` on balance, buffered newlines and absence of Eof -/
theorem token_inv (st : LState) (t : Tok) (nest : List (List Lex)) (hg : GoodKind t.kind)
    (h : AllNL st.newlines) :
    bal (LState.level st.curIndent) (st.token t nest).1 = some (LState.level (st.token t nest).2.curIndent)
    ∧ AllNL (st.token t nest).2.newlines ∧ NoEof (st.token t nest).1 := by
  by_cases hk : t.kind = .NL
  · rw [LState.token_nl hk]
    exact ⟨rfl, allNL_newline h, fun _ hl => nomatch hl⟩
  · rw [LState.token_of_ne hk]
    refine ⟨?_, (fun _ hl => nomatch hl), fun l hl => ?_⟩
    · rw [bal_append, layout_bal st h]
      exact bal_cons_of_not_dent (by simp [isDent, hg.1, hg.2.1]) _ _
    · rcases List.mem_append.mp hl with hl | hl
      · rcases layout_kind st h l hl with e | e | e <;> rw [e] <;> decide
      · rw [List.mem_singleton.mp hl]; exact hg.2.2

theorem lookup_mem {α β} [BEq α] [LawfulBEq α] {a : α} {b : β} {l : List (α × β)}
    (h : l.lookup a = some b) : (a, b) ∈ l := by
  obtain ⟨l₁, l₂, rfl, -⟩ := List.lookup_eq_some_iff.mp h
  simp

theorem takeWhile_stop {α} {p : α → Bool} {a b : List α} (ha : ∀ x ∈ a, p x = true)
    (hb : ∀ x ∈ b.head?, p x = false) : (a ++ b).takeWhile p = a := by
  rw [List.takeWhile_append_of_pos ha]
  cases b with
  | nil => exact List.append_nil a
  | cons x _ => rw [List.takeWhile_cons_of_neg (by simp [hb x rfl]), List.append_nil]

/-! ### the character dispatch -/

/-- every keyword is displayed as it is spelt, and its kind is none of the synthetic ones -/
theorem keywordTable_spec : ∀ p ∈ keywordTable, p.2.spelling = some p.1 ∧ GoodKind p.2 := by decide +kernel

theorem numTok_kind (s : NumScan) : (numTok s).kind ∈ [Kind.ENum, .Real, .Int] := by
  unfold numTok
  repeat' split
  all_goals simp

/-- the `'"'` arm of `classify`, the only one that looks at `nested` and `pos` -/
def strCls (nested : List Char → LexRes (List Lex)) (pos : CaretPos) (rest : List Char) : Cls :=
  let s := scanStr rest StrScan.init
  if s.panicked then .panic 1
  else if !s.terminated then .err
  else
    match nestedAll nested pos s.exprs.reverse with
    | .err p => .nestedErr p
    | .panic n => .panic n
    | .ok nest => .tok ⟨.Str, '"' :: s.string.reverse ++ ['"']⟩ nest s.consumed

theorem classify_quote (nested : List Char → LexRes (List Lex)) (pos : CaretPos) (rest : List Char) :
    classify nested pos '"' rest = strCls nested pos rest := rfl

theorem classify_space (nested : List Char → LexRes (List Lex)) (p : CaretPos) (rest : List Char) :
    classify nested p ' ' rest = .space := rfl

theorem classify_nl (nested : List Char → LexRes (List Lex)) (p : CaretPos) (rest : List Char) :
    classify nested p '\n' rest = .tok Kind.NL.tok [] 0 := rfl

theorem classify_crlf (nested : List Char → LexRes (List Lex)) (p : CaretPos) (rest : List Char) :
    classify nested p '\r' ('\n' :: rest) = .tok Kind.NL.tok [] 1 := rfl

theorem classify_hash (nested : List Char → LexRes (List Lex)) (p : CaretPos) (rest : List Char) :
    classify nested p '#' rest =
      .tok ⟨.Comment, '#' :: rest.takeWhile (fun d => d != '\n' && d != '\r')⟩ []
        (rest.takeWhile (fun d => d != '\n' && d != '\r')).length := rfl

theorem classify_congr {c : Char} (h : c ≠ '"') (n₁ n₂ : List Char → LexRes (List Lex)) (p₁ p₂ : CaretPos)
    (rest : List Char) : classify n₁ p₁ c rest = classify n₂ p₂ c rest := by
  unfold classify
  rw [if_neg h, if_neg h]

theorem idStart_not_digit {c : Char} (h : isIdStart c = true) : c.isDigit = false := by
  rcases Bool.or_eq_true_iff.mp h with h | h
  · -- the code points of `A`–`Z`, `a`–`z` and of `0`–`9` are disjoint ranges
    simp [Char.isAlpha, Char.isUpper, Char.isLower, Char.isDigit, UInt32.le_iff_toNat_le] at h ⊢
    omega
  · rw [of_decide_eq_true h]; rfl

theorem classify_idStart (nested : List Char → LexRes (List Lex)) (pos : CaretPos) {c : Char} (hs : isIdStart c = true)
    (rest : List Char) : classify nested pos c rest =
      .tok (asOpOrId (c :: rest.takeWhile isIdChar)) [] (rest.takeWhile isIdChar).length := by
  unfold classify
  -- `c` is none of the 24 characters tested first: none of them starts an identifier
  iterate 24 refine (if_neg (by rintro rfl; revert hs; decide)).trans ?_
  rw [if_neg (by rw [idStart_not_digit hs]; decide), if_pos hs]

/-- What `classify nested pos c rest` can be, arm by arm.  `fixed` covers punctuation, operators and
    keywords: the token of a kind whose spelling is exactly what was consumed.  The `'"'` arm ends in
    `str`, `strPanic`, `nestedErr` or `err`. -/
inductive ClsSpec (nested : List Char → LexRes (List Lex)) (pos : CaretPos) : Char → List Char → Cls → Prop
  | fixed {c rest k n} : k.spelling = some (c :: rest.take n) → n ≤ rest.length → GoodKind k →
      ClsSpec nested pos c rest (.tok k.tok [] n)
  | lf {rest} : ClsSpec nested pos '\n' rest (.tok Kind.NL.tok [] 0)
  | crlf {tl} : ClsSpec nested pos '\r' ('\n' :: tl) (.tok Kind.NL.tok [] 1)
  | comment {rest} : ClsSpec nested pos '#' rest
      (.tok ⟨.Comment, '#' :: rest.takeWhile (fun d => d != '\n' && d != '\r')⟩ []
        (rest.takeWhile (fun d => d != '\n' && d != '\r')).length)
  | num {c rest} : c.isDigit = true → ClsSpec nested pos c rest
      (.tok (numTok (scanNum rest ⟨[c], [], false, false, 0⟩)) [] (scanNum rest ⟨[c], [], false, false, 0⟩).consumed)
  | id {c rest} : isIdStart c = true → ClsSpec nested pos c rest
      (.tok ⟨.Id, c :: rest.takeWhile isIdChar⟩ [] (rest.takeWhile isIdChar).length)
  | str {rest nest} : (scanStr rest StrScan.init).terminated = true → ClsSpec nested pos '"' rest
      (.tok ⟨.Str, '"' :: (scanStr rest StrScan.init).string.reverse ++ ['"']⟩ nest (scanStr rest StrScan.init).consumed)
  | strPanic {rest n} : (scanStr rest StrScan.init).panicked = true ∨
      nestedAll nested pos (scanStr rest StrScan.init).exprs.reverse = .panic n → ClsSpec nested pos '"' rest (.panic n)
  | nestedErr {c rest p} : ClsSpec nested pos c rest (.nestedErr p)
  | space {rest} : ClsSpec nested pos ' ' rest .space
  | err {c rest} : ClsSpec nested pos c rest .err

namespace ClsSpec
variable {nested : List Char → LexRes (List Lex)} {pos : CaretPos} {c : Char} {rest : List Char}

theorem ite {p : Prop} [Decidable p] {a b : Cls}
    (ha : p → ClsSpec nested pos c rest a) (hb : ClsSpec nested pos c rest b) :
    ClsSpec nested pos c rest (if p then a else b) := by
  split
  · exact ha ‹_›
  · exact hb

theorem word (h : isIdStart c = true) : ClsSpec nested pos c rest
    (.tok (asOpOrId (c :: rest.takeWhile isIdChar)) [] (rest.takeWhile isIdChar).length) := by
  unfold asOpOrId
  split
  · rename_i k hk
    obtain ⟨hs, hg⟩ := keywordTable_spec _ (lookup_mem hk)
    refine .fixed ?_ (List.takeWhile_prefix _).length_le hg
    rw [← List.prefix_iff_eq_take.mp (List.takeWhile_prefix _)]; exact hs
  · exact .id h

theorem ofStr : ClsSpec nested pos '"' rest (strCls nested pos rest) := by
  unfold strCls
  simp only []
  split
  · exact .strPanic (.inl ‹_›)
  split
  · exact .err
  · rename_i ht
    split
    · exact .nestedErr
    · exact .strPanic (.inr ‹_›)
    · exact .str (by simpa using ht)

end ClsSpec

theorem classify_spec {nested : List Char → LexRes (List Lex)} {pos : CaretPos} {c : Char} {rest : List Char}
    {r : Cls} (h : classify nested pos c rest = r) : ClsSpec nested pos c rest r := by
  subst h
  unfold classify
  -- the 24 tests `c = ·`; `rotate_left` keeps the rest of the chain in front
  iterate 24 (refine .ite (fun h => ?_) ?_; rotate_left)
  · exact .ite .num (.ite .word (.ite (fun h => by subst h; exact .ofStr) (.ite (fun h => by subst h; exact .space) .err)))
  all_goals subst h; try split
  all_goals first
    | exact .fixed rfl (by simp) (by decide)
    | exact .lf
    | exact .crlf
    | exact .comment
    | exact .err

theorem classify_good {nested : List Char → LexRes (List Lex)} {pos : CaretPos} {c : Char}
    {rest : List Char} {t : Tok} {nest : List (List Lex)} {n : Nat}
    (h : classify nested pos c rest = .tok t nest n) : GoodKind t.kind := by
  cases classify_spec h with
  | fixed _ _ hg => exact hg
  | num => exact (by decide : ∀ k ∈ [Kind.ENum, .Real, .Int], GoodKind k) _ (numTok_kind _)
  | str => exact (by decide : GoodKind .Str)
  | lf | crlf => exact (by decide : GoodKind .NL)
  | comment => exact (by decide : GoodKind .Comment)
  | id => exact (by decide : GoodKind .Id)

theorem ite_elim {α : Sort _} {c : Prop} [Decidable c] {a b x : α}
    (h : (if c then a else b) = x) : (c ∧ a = x) ∨ (¬ c ∧ b = x) := by
  by_cases hc : c
  · rw [if_pos hc] at h; exact Or.inl ⟨hc, h⟩
  · rw [if_neg hc] at h; exact Or.inr ⟨hc, h⟩

end MV
