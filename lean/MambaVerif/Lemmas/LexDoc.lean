/-
The doc-string pass as a list function, and what it preserves.
-/
import MambaVerif.Lemmas.LexBasic

namespace MV

/-- the pass as a plain recursion over the token list -/
def docSpec : List Lex → List Lex
  | f :: m :: b :: rest =>
    match mergeCond f m b with
    | some ds => docTok f b ds :: docSpec rest
    | none => f :: docSpec (m :: b :: rest)
  | [a, b] => [a, b]
  | [a] => [a]
  | [] => []

/-- The window holds at most two pending tokens, in `middle` and `back` (`front` is never filled); the
    pass goes on from such a window as `docSpec` does with the pending tokens in front of the list. -/
theorem docPassGo_eq (ls : List Lex) :
    docPassGo ls ⟨none, none, none⟩ = docSpec ls ∧
    (∀ b, docPassGo ls ⟨none, none, some b⟩ = docSpec (b :: ls)) ∧
    (∀ m b, docPassGo ls ⟨none, some m, some b⟩ = docSpec (m :: b :: ls)) := by
  induction ls with
  | nil => exact ⟨rfl, fun _ => rfl, fun _ _ => rfl⟩
  | cons l ls ih =>
    obtain ⟨ih0, ih1, ih2⟩ := ih
    refine ⟨ih1 l, fun b => ih2 b l, fun m b => ?_⟩
    rw [docSpec, docPassGo]
    simp only [DocWin.push]
    cases mergeCond m b l with
    | some ds => exact congrArg _ ih0
    | none => exact congrArg _ (ih2 b l)

theorem docPass_eq_docSpec (ls : List Lex) : docPass ls = docSpec ls := (docPassGo_eq ls).1

theorem strBody_some {t : Tok} {s : List Char} (h : strBody t = some s) : t.kind = .Str := by
  unfold strBody at h; split at h <;> simp_all

theorem mergeCond_str {f m b : Lex} {ds : List Char} (h : mergeCond f m b = some ds) :
    f.kind = .Str ∧ m.kind = .Str ∧ b.kind = .Str := by
  unfold mergeCond at h
  split at h
  · rename_i h1 h2 h3
    exact ⟨strBody_some h1, strBody_some h2, strBody_some h3⟩
  · simp at h

@[simp] theorem docTok_kind (f b : Lex) (ds : List Char) : (docTok f b ds).kind = .DocStr := rfl

/-- the pass does not touch tokens other than `Str` (merged into `DocStr`) -/
theorem docSpec_filter (P : Kind → Bool) (hS : P .Str = false) (hD : P .DocStr = false) (ls : List Lex) :
    (docSpec ls).filter (fun l => P l.kind) = ls.filter (fun l => P l.kind) := by
  fun_induction docSpec ls with
  | case1 f m b rest ds hmc ih =>
    obtain ⟨h1, h2, h3⟩ := mergeCond_str hmc
    simp [h1, h2, h3, hS, hD, ih]
  | case2 f m b rest hmc ih =>
    rw [List.filter_cons, ih]; conv => rhs; rw [List.filter_cons]
  | case3 | case4 | case5 => rfl

theorem docSpec_bal (d : Nat) (ls : List Lex) : bal d (docSpec ls) = bal d ls := by
  rw [← bal_filter, docSpec_filter isDent rfl rfl, bal_filter]

/-- a token that is not a string literal passes through at the end of the stream -/
theorem docSpec_concat (ls : List Lex) {e : Lex} (he : e.kind ≠ .Str) :
    docSpec (ls ++ [e]) = docSpec ls ++ [e] := by
  fun_induction docSpec ls with
  | case1 f m b rest ds hmc ih => simp only [List.cons_append, docSpec, hmc, ih]
  | case2 f m b rest hmc ih =>
    simp only [List.cons_append] at ih
    simp only [List.cons_append, docSpec, hmc, ih]
  | case3 a b =>
    have : mergeCond a b e = none := Option.eq_none_iff_forall_ne_some.mpr fun ds h => he (mergeCond_str h).2.2
    simp only [List.cons_append, List.nil_append, docSpec, this]
  | case4 | case5 => rfl

end MV
