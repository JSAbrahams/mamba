/-
The grammar model on the forms outside the operator fragment: postfix forms (attribute, call,
subscript), conditional expression, lambda, displays (tuple, list, set) and comma separated items.
-/
import MambaVerif.Lemmas.PyBasic

namespace MV

/-- closing brackets: where a comma separated list ends -/
def isCloser : PTok → Bool
  | .rpar | .rbr | .rcur => true
  | _ => false

theorem isCloser_cases {t : PTok} (h : isCloser t = true) : t = .rpar ∨ t = .rbr ∨ t = .rcur := by
  cases t <;> simp [isCloser] at h ⊢

theorem contLevel_closer {t : PTok} (h : isCloser t = true) : contLevel t = none := by
  rcases isCloser_cases h with rfl | rfl | rfl <;> rfl

/-- the token list starts with a token that is not a closing bracket -/
def HeadOpen : List PTok → Prop
  | t :: _ => isCloser t = false
  | [] => False

theorem Ev_dot {acc : PyAst} {s : String} {r : List PTok} {out : PyAst × List PTok}
    (h : Ev (fun m => cont m 15 (.attr acc s) r) out) :
    Ev (fun m => cont m 15 acc (.dot :: .word s :: r)) out :=
  .of_succ (fun m => by simp [cont]) h

theorem Ev_call {acc : PyAst} {r r' : List PTok} {es : List PyAst} {out : PyAst × List PTok}
    (h1 : Ev (fun m => items m r []) (es, .rpar :: r')) (h2 : Ev (fun m => cont m 15 (.call acc es) r') out) :
    Ev (fun m => cont m 15 acc (.lpar :: r)) out :=
  h1.step (fun m e => by simp [cont, e]) h2

theorem Ev_index {acc i : PyAst} {r r' : List PTok} {out : PyAst × List PTok}
    (h1 : Ev (fun m => parse m 1 r) (i, .rbr :: r')) (h2 : Ev (fun m => cont m 15 (.subscript acc i) r') out) :
    Ev (fun m => cont m 15 acc (.lbr :: r)) out :=
  h1.step (fun m e => by simp [cont, e]) h2

theorem Ev_if {acc c e : PyAst} {ts' r r' : List PTok}
    (h1 : Ev (fun m => parse m 3 ts') (c, .kElse :: r)) (h2 : Ev (fun m => parse m 1 r) (e, r')) :
    Ev (fun m => cont m 2 acc (.kIf :: ts')) (.ifExp c acc e, r') :=
  h1.step₂ h2 (fun m e1 e2 => by simp [cont, e1, e2]) (.pure _)

theorem Ev_list {r r' : List PTok} {es : List PyAst} {out : PyAst × List PTok}
    (h1 : Ev (fun m => items m r []) (es, .rbr :: r')) (h2 : Ev (fun m => cont m 15 (.list es) r') out) :
    Ev (fun m => parse m 15 (.lbr :: r)) out :=
  h1.step (fun m e => by simp [parse, e]) h2

theorem Ev_set {r r' : List PTok} {es : List PyAst} {out : PyAst × List PTok}
    (h1 : Ev (fun m => items m r []) (es, .rcur :: r')) (h2 : Ev (fun m => cont m 15 (.set es) r') out) :
    Ev (fun m => parse m 15 (.lcur :: r)) out :=
  h1.step (fun m e => by simp [parse, e]) h2

theorem Ev_tuple {r r' r'' : List PTok} {a : PyAst} {es : List PyAst} {out : PyAst × List PTok}
    (h1 : Ev (fun m => parse m 1 r) (a, .comma :: r')) (h2 : Ev (fun m => items m r' [a]) (es, .rpar :: r''))
    (h3 : Ev (fun m => cont m 15 (.tuple es) r'') out) :
    Ev (fun m => parse m 15 (.lpar :: r)) out :=
  h1.step₂ h2 (fun m e1 e2 => by simp [parse, e1, e2]) h3

theorem Ev_lambda {ts r' r'' : List PTok} {args : List String} {b : PyAst}
    (hl : headIsLambda ts = true) (h1 : lambdaArgs (dropSpace ts.tail) [] = some (args, r'))
    (h2 : Ev (fun m => parse m 1 r') (b, r'')) :
    Ev (fun m => parse m 1 ts) (.lambda args b, r'') :=
  h2.step (fun m e => by unfold parse; simp [hl, h1, e]) (.pure _)

theorem Ev_items_close {t : PTok} {ts : List PTok} {acc : List PyAst} (h : isCloser t = true) :
    Ev (fun m => items m (t :: ts) acc) (acc.reverse, t :: ts) :=
  .of_succ (fun m => by rcases isCloser_cases h with rfl | rfl | rfl <;> simp [items]) (.pure _)

/-- before anything but a closing bracket, `items` reads one expression and looks at what follows it -/
theorem items_open (n : Nat) {ts : List PTok} (ho : HeadOpen ts) (acc : List PyAst) :
    items (n + 1) ts acc =
      match parse n 1 ts with
      | some (a, .comma :: r) => items n r (a :: acc)
      | some (a, .commaTight :: r) => items n r (a :: acc)
      | some (a, r) => some ((a :: acc).reverse, r)
      | none => none := by
  conv => lhs; unfold items
  split
  · cases ho
  · cases ho
  · cases ho
  · rfl

theorem Ev_items_comma {ts r : List PTok} {acc : List PyAst} {a : PyAst} {out : List PyAst × List PTok}
    (ho : HeadOpen ts) (h1 : Ev (fun m => parse m 1 ts) (a, .comma :: r))
    (h2 : Ev (fun m => items m r (a :: acc)) out) : Ev (fun m => items m ts acc) out :=
  h1.step (fun m e => by rw [items_open m ho, e]) h2

theorem Ev_items_commaTight {ts r : List PTok} {acc : List PyAst} {a : PyAst} {out : List PyAst × List PTok}
    (ho : HeadOpen ts) (h1 : Ev (fun m => parse m 1 ts) (a, .commaTight :: r))
    (h2 : Ev (fun m => items m r (a :: acc)) out) : Ev (fun m => items m ts acc) out :=
  h1.step (fun m e => by rw [items_open m ho, e]) h2

theorem Ev_items_last {ts r : List PTok} {acc : List PyAst} {a : PyAst} {t : PTok}
    (ho : HeadOpen ts) (h1 : Ev (fun m => parse m 1 ts) (a, t :: r)) (hc : isCloser t = true) :
    Ev (fun m => items m ts acc) ((a :: acc).reverse, t :: r) :=
  h1.step (fun m e => by rw [items_open m ho, e]; rcases isCloser_cases hc with rfl | rfl | rfl <;> rfl)
    (.pure _)

end MV
