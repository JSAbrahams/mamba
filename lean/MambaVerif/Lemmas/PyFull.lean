/-
The round trip for the whole expression language of the printer: the operators, conditional
expressions, lambdas, calls, attribute access, subscripts, isinstance, sqrt, E-notation and the
displays.  One lemma for each form (`S_un`, `S_bin`, `S_call`, …: the form is parsed back if its parts
are), then the induction `S_all2`; after it the `if` clause of a builder.
-/
import MambaVerif.Lemmas.PyRound

namespace MV

/-- the operator fragment of `Core` expressions: names, literals, binary and unary operators -/
def frag : CE → Bool
  | .atom _ => true
  | .int _ => true
  | .bin _ l r => frag l && frag r
  | .un _ e => frag e
  | _ => false

def isAtomCE : CE → Bool
  | .atom _ => true
  | _ => false

mutual
/-- the expressions covered by the full round trip.  Excluded, each for a stated reason:
    * a tuple with fewer than two elements (`(x)` IS `x` in Python; `()` is not in the grammar model);
    * the empty set display (`{}` is a dictionary in Python);
    * a property whose right side is neither a name nor a call of a name (the Mamba parser builds no other);
    * lambda parameters that are not plain names. -/
def full : CE → Bool
  | .atom _ => true
  | .int _ => true
  | .enum _ _ => true
  | .bin _ l r => full l && full r
  | .un _ e => full e
  | .ternary c t e => full c && full t && full e
  | .lambda args body => args.all isAtomCE && full body
  | .call f args => full f && fullAll args
  | .attr o p =>
    full o && (match p with
      | .atom _ => true
      | .call (.atom _) args => fullAll args
      | _ => false)
  | .index i r => full i && full r
  | .isA l r => full l && full r
  | .sqrt e => full e
  | .tuple es => decide (2 ≤ es.length) && fullAll es
  | .list es => fullAll es
  | .set es => !es.isEmpty && fullAll es
def fullAll : List CE → Bool
  | [] => true
  | e :: es => full e && fullAll es
end

/-! ### the operators -/

theorem S_atom (s : String) : SProp2 (.atom s) :=
  lift_top (p := 15) rfl fun rest out _ _ hc => by rw [pr_atom]; rw [embed] at hc; exact Ev_word hc

theorem S_int (s : String) : SProp2 (.int s) :=
  lift_top (p := 15) rfl fun rest out _ _ hc => by rw [pr_int]; rw [embed] at hc; exact Ev_word hc

theorem S_un (u : UnOp) (x : CE) (hSx : SProp2 x) : SProp2 (.un u x) :=
  lift_top (p := u.prec) rfl fun rest out hstop _ hc => by
    have hq := un_prec_cases u
    have hexit : ∀ acc, Ev (fun m => cont m u.prec acc rest) (acc, rest) := fun acc => Ev_exit_of_level (by omega)
    cases Ev.unique hc (hexit _)
    rw [pr_un, embed]
    exact Ev_prefix (by omega) (prefixForm_uop u _)
      (operand_S hSx u.prec u.prec (by omega) hstop (fun hb => by omega) (hexit _))

/-- Both operands are read where the grammar reads them: the left one at the level of the operator,
    then the operator, then the right one at the level the grammar prescribes for it (`Ev_left`,
    `Ev_cmp`, `Ev_pow`).  By `sides_levels` each operand is in parentheses unless its own level is at
    least that one — for the left operand of a comparison or a power, which do not loop, unless it is
    above the operator's. -/
theorem S_bin (op : BinOp) (l r : CE) (hSl : SProp2 l) (hSr : SProp2 r) : SProp2 (.bin op l r) :=
  lift_top (prec_eq_level op) fun rest out hstop hna hc => by
    simp only [pr_bin, embed, List.append_assoc, List.cons_append, List.nil_append] at hc ⊢
    have hleft := operand_S hSl op.sides.1 (pyLevel op) (by have := level_range op; omega) (out := out)
      (stop_bop op (operand r op.sides.2 ++ rest) _ (Nat.lt_succ_self _))
    rcases sides_levels op with ⟨hk, hlm, hrm⟩ | ⟨hk, hlm, hrm⟩ | ⟨hk, hlm, hrm⟩
    · have hp := isLeft_cases hk
      exact hleft (fun hb => by omega)
        (Ev_left hk rfl
          (operand_S hSr _ (pyLevel op + 1) (by omega) (hstop.mono (by omega)) (fun hb => by omega)
            (Ev_exit_of_stop hstop))
          hc)
    · have hs6 : Stop 6 rest := hna.1 (by rw [CE.prec, prec_eq_level, hk])
      rw [hk] at hc hstop hleft ⊢
      cases Ev.unique hc (Ev_exit_of_stop hs6)
      exact hleft (fun hb => by omega)
        (Ev_cmp hk
          (operand_S hSr _ 7 (by omega) (hstop.mono (by omega)) (fun hb => by omega) (Ev_exit_of_stop hstop))
          hs6)
    · have hs14 : Stop 14 rest := hna.2.1 (by rw [CE.prec, prec_eq_level, hk])
      rw [hk] at hc hleft ⊢
      cases Ev.unique hc (Ev_exit_of_stop hs14)
      exact hleft (fun hb => by omega)
        (Ev_pow hk
          (operand_S hSr _ 13 (by omega) hs14 (fun hb => by omega) (Ev_exit_of_level (by omega))))

/-! ### the forms outside the operator fragment -/

theorem S_ternary (c t e : CE) (hSc : SProp2 c) (hSt : SProp2 t) (hSe : SProp2 e) : SProp2 (.ternary c t e) :=
  lift_top (p := 2) rfl fun rest out _ hna hc => by
    have hstop2 : Stop 2 rest := hna.2.2 (Nat.le_refl 2)
    cases Ev.unique hc (Ev_exit_of_stop hstop2)
    simp only [pr_ternary, embed, List.append_assoc, List.cons_append, List.nil_append]
    exact operand_S hSt 3 2 (by omega) (stop_kIf 3 (by omega) _) (fun hb => by omega)
      (Ev_if
        (operand_S hSc 3 3 (by omega) (stop_of_none .kElse _ _ rfl) (fun hb => by omega)
          (Ev_exit_of_stop (stop_of_none .kElse _ _ rfl)))
        (operand_S hSe 1 1 (by omega) hstop2 (fun _ => by have := full_prec_bounds e; omega)
          (Ev_exit_of_level (.inl rfl))))

/-- a parameter that is a plain name is printed as that name -/
theorem pr_of_isAtomCE {a : CE} (h : isAtomCE a = true) : pr a = [.word (atomName a)] := by
  cases a <;> simp [isAtomCE] at h
  simp [pr_atom, atomName]

theorem commaSep_prAll_cons (a b : CE) (more : List CE) :
    commaSep (prAll (a :: b :: more)) = pr a ++ .comma :: commaSep (prAll (b :: more)) := by
  simp [commaSep, prAll]

/-- the grammar reads a printed parameter list back: names separated by commas, up to the colon -/
theorem lambdaArgs_prAll : (args : List CE) → args.all isAtomCE = true → ∀ (acc : List String) (r : List PTok),
    lambdaArgs (commaSep (prAll args) ++ .colon :: r) acc = some (acc.reverse ++ args.map atomName, r)
  | [], _, acc, r => by simp [prAll, commaSep, lambdaArgs]
  | [a], h, acc, r => by
    have ha : isAtomCE a = true := by simpa using h
    simp [prAll, commaSep, pr_of_isAtomCE ha, lambdaArgs]
  | a :: b :: more, h, acc, r => by
    obtain ⟨ha, hbs⟩ : isAtomCE a = true ∧ (b :: more).all isAtomCE = true := by simpa using h
    rw [commaSep_prAll_cons, pr_of_isAtomCE ha]
    simp only [List.cons_append, List.nil_append, lambdaArgs]
    rw [lambdaArgs_prAll (b :: more) hbs]
    simp

theorem S_lambda (args : List CE) (body : CE) (hargs : args.all isAtomCE = true) (hSb : SProp2 body) :
    SProp2 (.lambda args body) :=
  lift_top (p := 1) rfl fun rest out hstop2 _ hc => by
    cases Ev.unique hc (Ev_exit_of_level (.inl rfl))
    rw [embed]
    refine Ev_lambda (r' := pr body ++ rest) (by rw [pr_lambda]; rfl) ?_ (hSb.expr hstop2)
    have := lambdaArgs_prAll args hargs [] (pr body ++ rest)
    cases args <;> simpa [pr_lambda, prAll, commaSep, dropSpace] using this

/-- the printed primary of an expression is parsed back at the primary level, whatever continues it -/
theorem primary_S {f : CE} (hS : SProp2 f) {rest : List PTok} {out : PyAst × List PTok}
    (hc : Ev (fun m => cont m 15 (embed f) rest) out) :
    Ev (fun m => parse m 15 (primary f ++ rest)) out := by
  by_cases hi : ∃ s, f = .int s
  · obtain ⟨s, rfl⟩ := hi
    rw [primary_int, ← pr_int]
    exact Ev_parens (hS.expr (stop_of_none .rpar rest 2 rfl)) hc
  · rw [primary_other f (fun s e => hi ⟨s, e⟩), precAtom_eq]
    exact operand_S hS 15 15 (by omega) (stop_16 rest) (fun hb => by omega) hc

/-- comma separated printed expressions up to a closing bracket -/
theorem items_S : (args : List CE) → (∀ x ∈ args, SProp2 x) → ∀ (c : PTok) (rest : List PTok) (acc : List PyAst),
    isCloser c = true →
    Ev (fun m => items m (commaSep (prAll args) ++ c :: rest) acc) (acc.reverse ++ embedAll args, c :: rest)
  | [], _, c, rest, acc, hc => by
    simpa [commaSep, prAll, embedAll] using Ev_items_close (ts := rest) (acc := acc) hc
  | [a], hS, c, rest, acc, hc => by
    have := Ev_items_last (acc := acc) (pr_headOpen a _)
      ((hS a (List.mem_singleton_self a)).expr (stop_of_none c rest 2 (contLevel_closer hc))) hc
    simpa [commaSep, prAll, embedAll] using this
  | a :: b :: more, hS, c, rest, acc, hc => by
    have := Ev_items_comma (acc := acc) (pr_headOpen a _)
      ((hS a List.mem_cons_self).expr (stop_of_none .comma (commaSep (prAll (b :: more)) ++ c :: rest) 2 rfl))
      (items_S (b :: more) (fun x hx => hS x (List.mem_cons_of_mem a hx)) c rest (embed a :: acc) hc)
    rw [commaSep_prAll_cons, List.append_assoc, List.cons_append]
    simpa [embedAll] using this

/-- E-notation is printed as the product it stands for, in parentheses -/
theorem S_enum (n e : String) : SProp2 (.enum n e) :=
  lift_top (p := 15) rfl fun rest out _ _ hc => by
    let x : CE := .bin .Mul (.atom n) (.bin .Pow (.atom "10") (.atom e))
    have hS : SProp2 x := S_bin .Mul _ _ (S_atom n) (S_bin .Pow _ _ (S_atom "10") (S_atom e))
    -- no operand of the product is in parentheses: their minima are 12 and 13 ≤ 14, then 15 and 13
    have hform : pr (.enum n e) = parens (pr x) := by
      simp [x, pr_enum, pr_bin, pr_atom, parens, operand_unfold, CE.prec, precAtom_eq, BinOp.sides, BinOp.prec]
    have hemb : embed (.enum n e) = embed x := by simp [x, embed]
    rw [hform]; rw [hemb] at hc
    exact Ev_parens (hS.expr (stop_of_none .rpar rest 2 rfl)) hc

theorem S_call (f : CE) (args : List CE) (hSf : SProp2 f) (hSa : ∀ x ∈ args, SProp2 x) : SProp2 (.call f args) :=
  lift_top (p := 15) rfl fun rest out _ _ hc => by
    simp only [pr_call, embed, List.append_assoc, List.cons_append, List.nil_append] at hc ⊢
    exact primary_S hSf (Ev_call (items_S args hSa .rpar rest [] rfl) hc)

theorem S_index (i r : CE) (hSi : SProp2 i) (hSr : SProp2 r) : SProp2 (.index i r) :=
  lift_top (p := 15) rfl fun rest out _ _ hc => by
    simp only [pr_index, embed, List.append_assoc, List.cons_append, List.nil_append] at hc ⊢
    exact primary_S hSi (Ev_index (hSr.expr (stop_of_none .rbr rest 2 rfl)) hc)

theorem S_attr_name (o : CE) (s : String) (hSo : SProp2 o) : SProp2 (.attr o (.atom s)) :=
  lift_top (p := 15) rfl fun rest out _ _ hc => by
    simp only [pr_attr, pr_atom, embed, List.append_assoc, List.cons_append, List.nil_append] at hc ⊢
    exact primary_S hSo (Ev_dot hc)

theorem S_attr_call (o : CE) (s : String) (args : List CE) (hSo : SProp2 o) (hSa : ∀ x ∈ args, SProp2 x) :
    SProp2 (.attr o (.call (.atom s) args)) :=
  lift_top (p := 15) rfl fun rest out _ _ hc => by
    have hprim : primary (.atom s) = [.word s] := by
      rw [primary_other _ (fun _ h => by cases h), operand_unfold, pr_atom]; rfl
    simp only [pr_attr, pr_call, hprim, embed, List.append_assoc, List.cons_append, List.nil_append] at hc ⊢
    exact primary_S hSo (Ev_dot (Ev_call (items_S args hSa .rpar rest [] rfl) hc))

theorem S_isA (l r : CE) (hSl : SProp2 l) (hSr : SProp2 r) : SProp2 (.isA l r) :=
  lift_top (p := 15) rfl fun rest out _ _ hc => by
    simp only [pr_isA, embed, List.append_assoc, List.cons_append, List.nil_append] at hc ⊢
    exact Ev_word (Ev_call
      (Ev_items_commaTight (acc := []) (pr_headOpen l _) (hSl.expr (stop_of_none .commaTight _ 2 rfl))
        (Ev_items_last (pr_headOpen r _) (hSr.expr (stop_of_none .rpar rest 2 rfl)) rfl)) hc)

theorem S_sqrt (e : CE) (hSe : SProp2 e) : SProp2 (.sqrt e) :=
  lift_top (p := 15) rfl fun rest out _ _ hc => by
    simp only [pr_sqrt, embed, List.append_assoc, List.cons_append, List.nil_append] at hc ⊢
    exact Ev_word (Ev_dot (Ev_call
      (Ev_items_last (acc := []) (pr_headOpen e _) (hSe.expr (stop_of_none .rpar rest 2 rfl)) rfl) hc))

theorem S_list_display (es : List CE) (hS : ∀ x ∈ es, SProp2 x) : SProp2 (.list es) :=
  lift_top (p := 15) rfl fun rest out _ _ hc => by
    simp only [pr_list, embed, List.append_assoc, List.cons_append, List.nil_append] at hc ⊢
    exact Ev_list (items_S es hS .rbr rest [] rfl) hc

theorem S_set (es : List CE) (hS : ∀ x ∈ es, SProp2 x) : SProp2 (.set es) :=
  lift_top (p := 15) rfl fun rest out _ _ hc => by
    simp only [pr_set, embed, List.append_assoc, List.cons_append, List.nil_append] at hc ⊢
    exact Ev_set (items_S es hS .rcur rest [] rfl) hc

/-- a tuple display needs its comma: with two elements or more, the first is followed by one -/
theorem S_tuple (es : List CE) (hlen : 2 ≤ es.length) (hS : ∀ x ∈ es, SProp2 x) : SProp2 (.tuple es) :=
  lift_top (p := 15) rfl fun rest out _ _ hc => by
    match es, hlen with
    | a :: b :: more, _ =>
      simp only [pr_tuple, embed, commaSep_prAll_cons, List.append_assoc, List.cons_append, List.nil_append] at hc ⊢
      rw [embedAll] at hc
      exact Ev_tuple ((hS a List.mem_cons_self).expr (stop_of_none .comma _ 2 rfl))
        (items_S (b :: more) (fun x hx => hS x (List.mem_cons_of_mem a hx)) .rpar rest [embed a] rfl) hc

/-! ### the induction -/

-- `full` of a form is by definition the conjunction of `full` of its parts (and of its side conditions)
mutual
/-- every expression of the language is parsed back from its printed tokens -/
theorem S_all2 : (e : CE) → full e = true → SProp2 e
  | .atom s, _ => S_atom s
  | .int s, _ => S_int s
  | .enum n e, _ => S_enum n e
  | .un u x, h => S_un u x (S_all2 x h)
  | .bin op l r, h =>
    have h' := Bool.and_eq_true_iff.1 h
    S_bin op l r (S_all2 l h'.1) (S_all2 r h'.2)
  | .ternary c t e, h =>
    have h' := Bool.and_eq_true_iff.1 h
    have h'' := Bool.and_eq_true_iff.1 h'.1
    S_ternary c t e (S_all2 c h''.1) (S_all2 t h''.2) (S_all2 e h'.2)
  | .lambda args body, h =>
    have h' := Bool.and_eq_true_iff.1 h
    S_lambda args body h'.1 (S_all2 body h'.2)
  | .call f args, h =>
    have h' := Bool.and_eq_true_iff.1 h
    S_call f args (S_all2 f h'.1) (S_list args h'.2)
  | .attr o p, h => by
    -- `full` admits a name or a call of a name as the property
    cases p with
    | atom s =>
      have h' : full o = true := by simpa [full] using h
      exact S_attr_name o s (S_all2 o h')
    | call f args =>
      cases f with
      | atom s =>
        have h' : full o = true ∧ fullAll args = true := by simpa [full] using h
        exact S_attr_call o s args (S_all2 o h'.1) (S_list args h'.2)
      | _ => simp [full] at h
    | _ => simp [full] at h
  | .index i r, h =>
    have h' := Bool.and_eq_true_iff.1 h
    S_index i r (S_all2 i h'.1) (S_all2 r h'.2)
  | .isA l r, h =>
    have h' := Bool.and_eq_true_iff.1 h
    S_isA l r (S_all2 l h'.1) (S_all2 r h'.2)
  | .sqrt e, h => S_sqrt e (S_all2 e h)
  | .tuple es, h =>
    have h' := Bool.and_eq_true_iff.1 h
    S_tuple es (of_decide_eq_true h'.1) (S_list es h'.2)
  | .list es, h => S_list_display es (S_list es h)
  | .set es, h =>
    have h' := Bool.and_eq_true_iff.1 h
    S_set es (S_list es h'.2)
theorem S_list : (es : List CE) → fullAll es = true → ∀ x ∈ es, SProp2 x
  | [], _ => fun _ hx => nomatch hx
  | e :: es, h => fun x hx =>
    have h' := Bool.and_eq_true_iff.1 h
    match List.mem_cons.1 hx with
    | .inl hxe => hxe ▸ S_all2 e h'.1
    | .inr hx => S_list es h'.2 x hx
end

/-- Printed as an operand of any required strength and followed by anything that does not continue
    an expression, an expression is read back as a whole `expression` (`min = 0`: printed bare). -/
theorem operand_roundtrip_full (e : CE) (he : full e = true) (min : Nat) (rest : List PTok) (hstop : Stop 2 rest) :
    Ev (fun fuel => parse fuel 1 (operand e min ++ rest)) (embed e, rest) :=
  operand_S (S_all2 e he) min 1 (by omega) hstop (fun _ => by have := full_prec_bounds e; omega)
    (Ev_exit_of_level (.inl rfl))

/-! ### the `if` clause of a builder: the printer joins the conditions with `and` -/

/-- `" and "`-joined conditions after the first one -/
def condTail : List CE → List PTok
  | [] => []
  | c :: cs => [.bop .And] ++ operand c precCompCond ++ condTail cs

/-- the printed `if` clause: `operand(c, PREC_NOT)` for every condition, joined with `and` -/
def condChain : List CE → List PTok
  | [] => []
  | c :: cs => operand c precCompCond ++ condTail cs

/-- the conjunction the clause denotes: each condition is one operand -/
def andFold (acc : PyAst) : List CE → PyAst
  | [] => acc
  | c :: cs => andFold (.bin .And acc (embed c)) cs

theorem stop_condTail (cs : List CE) (rest : List PTok) (j : Nat) (hj : 4 < j) (h : Stop j rest) :
    Stop j (condTail cs ++ rest) := by
  cases cs with
  | nil => exact h
  | cons c cs => exact stop_bop .And _ j hj

/-- a condition is read as one operand at the level of `and` (4) and at the level of its operands (5) -/
theorem cond_operand (c : CE) (hS : SProp2 c) (k : Nat) (hk : k = 4 ∨ k = 5) (R : List PTok)
    (hR : Stop (k + 1) R) (out : PyAst × List PTok) (hc : Ev (fun m => cont m k (embed c) R) out) :
    Ev (fun m => parse m k (operand c precCompCond ++ R)) out := by
  rw [precCompCond_eq]
  exact operand_S hS 5 k (by omega) hR (fun hb => by omega) hc

theorem condTail_S : (cs : List CE) → (∀ x ∈ cs, SProp2 x) → ∀ (acc : PyAst) (rest : List PTok)
    (out : PyAst × List PTok), Stop 4 rest → Ev (fun m => cont m 4 (andFold acc cs) rest) out →
    Ev (fun m => cont m 4 acc (condTail cs ++ rest)) out
  | [], _, acc, rest, out, _, hc => hc
  | c :: cs, hS, acc, rest, out, hstop, hc => by
    have hR := stop_condTail cs rest 6 (by omega) (hstop.mono (by omega))
    simp only [condTail, List.append_assoc, List.cons_append, List.nil_append]
    exact Ev_left (k := 4) rfl rfl
      (cond_operand c (hS c List.mem_cons_self) 5 (.inr rfl) _ hR _ (Ev_exit_of_level (.inr (.inl rfl))))
      (condTail_S cs (fun x hx => hS x (List.mem_cons_of_mem c hx)) (.bin .And acc (embed c)) rest out hstop hc)

/-- The `if` clause of a builder parses, at the grammar level of a comprehension condition
    (`disjunction`), to the conjunction of the conditions — every condition intact as one operand. -/
theorem condChain_S (c : CE) (cs : List CE) (hSc : SProp2 c) (hS : ∀ x ∈ cs, SProp2 x) (rest : List PTok)
    (hstop : Stop 3 rest) :
    Ev (fun m => parse m 3 (condChain (c :: cs) ++ rest)) (andFold (embed c) cs, rest) := by
  simp only [condChain, List.append_assoc]
  have h4 := cond_operand c hSc 4 (.inl rfl) _ (stop_condTail cs rest 5 (by omega) (hstop.mono (by omega))) _
    (condTail_S cs hS (embed c) rest _ (hstop.mono (by omega)) (Ev_exit_of_stop (hstop.mono (by omega))))
  exact Ev_down (by omega) (by rw [precCompCond_eq]; exact operand_noPrefix c 5 3 (by omega) (by omega) (by omega) _)
    h4 (Ev_exit_of_stop hstop)

end MV
