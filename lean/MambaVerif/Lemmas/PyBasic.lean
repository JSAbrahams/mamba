/-
"For all sufficient fuel": the combinators, and what the grammar model does on each form of input
of the operator fragment, one step of fuel at a time.
-/
import MambaVerif.Model.PyExpr

namespace MV

/-- `f` evaluates to `x` for all sufficient fuel -/
def Ev {α : Type} (f : Nat → Option α) (x : α) : Prop := ∃ n, ∀ m, n ≤ m → f m = some x

theorem Ev.unique {α : Type} {f : Nat → Option α} {x y : α} (hx : Ev f x) (hy : Ev f y) : x = y := by
  obtain ⟨n1, h1⟩ := hx; obtain ⟨n2, h2⟩ := hy
  have a := h1 (max n1 n2) (Nat.le_max_left _ _)
  have b := h2 (max n1 n2) (Nat.le_max_right _ _)
  rw [a] at b; exact Option.some.inj b

theorem Ev.pure {α : Type} (y : α) : Ev (fun _ => some y) y := ⟨0, fun _ _ => rfl⟩

/-- One step of a fuelled function: if, once the calls `f m` and `g m` it makes have their values,
    `F (m + 1)` is `G m`, then `F` evaluates to what `G` evaluates to. -/
theorem Ev.step₂ {α β γ : Type} {f : Nat → Option α} {g : Nat → Option β} {F G : Nat → Option γ}
    {x : α} {y : β} {z : γ} (hf : Ev f x) (hg : Ev g y)
    (h : ∀ m, f m = some x → g m = some y → F (m + 1) = G m) (hG : Ev G z) : Ev F z := by
  obtain ⟨n1, e1⟩ := hf; obtain ⟨n2, e2⟩ := hg; obtain ⟨n3, e3⟩ := hG
  refine ⟨max n1 (max n2 n3) + 1, fun m hm => ?_⟩
  cases m with
  | zero => cases hm
  | succ m =>
    have hm := Nat.le_of_succ_le_succ hm
    have h23 := Nat.le_trans (Nat.le_max_right ..) hm
    rw [h m (e1 m (Nat.le_trans (Nat.le_max_left ..) hm)) (e2 m (Nat.le_trans (Nat.le_max_left ..) h23))]
    exact e3 m (Nat.le_trans (Nat.le_max_right ..) h23)

theorem Ev.step {α γ : Type} {f : Nat → Option α} {F G : Nat → Option γ} {x : α} {z : γ} (hf : Ev f x)
    (h : ∀ m, f m = some x → F (m + 1) = G m) (hG : Ev G z) : Ev F z :=
  hf.step₂ hf (fun m e _ => h m e) hG

theorem Ev.of_succ {γ : Type} {F G : Nat → Option γ} {z : γ} (h : ∀ m, F (m + 1) = G m) (hG : Ev G z) :
    Ev F z :=
  hG.step (fun m _ => h m) hG

/-- no continuation token of level ≥ `j` follows -/
def Stop (j : Nat) (r : List PTok) : Prop := ∀ t, r.head? = some t → ∀ l, contLevel t = some l → l < j

theorem Stop.mono {j j' : Nat} {r : List PTok} (h : Stop j r) (hj : j ≤ j') : Stop j' r :=
  fun t ht l hl => Nat.lt_of_lt_of_le (h t ht l hl) hj

theorem stop_cons {t : PTok} {j : Nat} (h : ∀ l, contLevel t = some l → l < j) (r : List PTok) :
    Stop j (t :: r) := by
  intro t' ht; cases ht; exact h

theorem stop_of_none (t : PTok) (r : List PTok) (j : Nat) (h : contLevel t = none) : Stop j (t :: r) :=
  stop_cons (fun l hl => by rw [h] at hl; cases hl) r

theorem stop_nil (j : Nat) : Stop j [] := fun t ht => by cases ht

theorem stop_bop (o : BinOp) (ts : List PTok) (j : Nat) (h : pyLevel o < j) : Stop j (.bop o :: ts) :=
  stop_cons (fun l hl => by cases hl; exact h) ts

theorem stop_kIf (j : Nat) (hj : 2 < j) (r : List PTok) : Stop j (.kIf :: r) :=
  stop_cons (fun l hl => by cases hl; exact hj) r

/-! ### the levels of the grammar model -/

theorem level_kind (o : BinOp) : isLeft (pyLevel o) = true ∨ pyLevel o = 6 ∨ pyLevel o = 14 := by
  cases o <;> decide

theorem isLeft_cases {k : Nat} (h : isLeft k = true) : 3 ≤ k ∧ k ≤ 12 ∧ k ≠ 5 ∧ k ≠ 6 := by
  simp [isLeft] at h; omega

theorem level_range (o : BinOp) :
    (3 ≤ pyLevel o ∧ pyLevel o ≤ 4) ∨ (6 ≤ pyLevel o ∧ pyLevel o ≤ 12) ∨ pyLevel o = 14 := by
  rcases level_kind o with h | h | h
  · have := isLeft_cases h; omega
  · omega
  · omega

/-- the levels at which a token continues an expression: none of the prefix forms' and `lambda`'s -/
theorem contLevel_range {t : PTok} {l : Nat} (h : contLevel t = some l) :
    l ≠ 1 ∧ l ≠ 5 ∧ l ≠ 13 ∧ l ≤ 15 := by
  unfold contLevel at h
  split at h <;> cases h
  · rename_i o
    have := level_range o; omega
  all_goals decide

theorem stop_16 (rest : List PTok) : Stop 16 rest :=
  fun t _ l hl => by have := contLevel_range hl; omega

/-- no prefix form applies at level `k` -/
def NoPrefixAt (k : Nat) (ts : List PTok) : Prop := prefixForm k ts = none ∧ headIsLambda ts = false

/-! ### the grammar model on the tokens of the operator fragment -/

theorem Ev_word {s : String} {r : List PTok} {out : PyAst × List PTok}
    (h : Ev (fun m => cont m 15 (.name s) r) out) : Ev (fun m => parse m 15 (.word s :: r)) out :=
  .of_succ (fun m => by simp [parse]) h

theorem Ev_paren {r r' : List PTok} {a : PyAst} {out : PyAst × List PTok}
    (h1 : Ev (fun m => parse m 1 r) (a, .rpar :: r')) (h2 : Ev (fun m => cont m 15 a r') out) :
    Ev (fun m => parse m 15 (.lpar :: r)) out :=
  h1.step (fun m e => by simp [parse, e]) h2

theorem Ev_down {k : Nat} {ts r : List PTok} {a : PyAst} {out : PyAst × List PTok} (hk : k < 15)
    (hp : NoPrefixAt k ts) (h1 : Ev (fun m => parse m (k + 1) ts) (a, r))
    (h2 : Ev (fun m => cont m k a r) out) : Ev (fun m => parse m k ts) out :=
  h1.step (fun m e => by
    have hk' : ¬ (k ≥ 15) := by omega
    unfold parse; simp [hk', hp.1, hp.2, e]) h2

theorem Ev_prefix {k : Nat} {u : UnOp} {ts' r : List PTok} {a : PyAst} (hk : k < 15)
    (hp : prefixForm k (.uop u :: ts') = some (u, ts')) (h1 : Ev (fun m => parse m k ts') (a, r)) :
    Ev (fun m => parse m k (.uop u :: ts')) (.un u a, r) :=
  h1.step (fun m e => by
    have hk' : ¬ (k ≥ 15) := by omega
    simp [parse, hk', hp, headIsLambda, e]) (.pure _)

theorem cont_exit (n k : Nat) (acc : PyAst) (ts : List PTok)
    (h : ∀ t, ts.head? = some t → contLevel t ≠ some k) : cont (n + 1) k acc ts = some (acc, ts) := by
  -- whatever level the first token continues at, it is not `k`
  have hk : ∀ t, ts.head? = some t → ∀ l, contLevel t = some l → l ≠ k := fun t ht l hl e => h t ht (e ▸ hl)
  unfold cont
  split
  · simp [hk _ rfl _ rfl]
  · simp [(hk _ rfl 2 rfl).symm]
  · simp [(hk _ rfl 15 rfl).symm]
  · simp [(hk _ rfl 15 rfl).symm]
  · simp [(hk _ rfl 15 rfl).symm]
  · rfl

theorem Ev_exit {k : Nat} {acc : PyAst} {ts : List PTok}
    (h : ∀ t, ts.head? = some t → contLevel t ≠ some k) : Ev (fun m => cont m k acc ts) (acc, ts) :=
  .of_succ (fun m => cont_exit m k acc ts h) (.pure _)

theorem Ev_exit_of_stop {k : Nat} {acc : PyAst} {ts : List PTok} (h : Stop k ts) :
    Ev (fun m => cont m k acc ts) (acc, ts) :=
  Ev_exit (fun t ht hc => Nat.lt_irrefl _ (h t ht k hc))

/-- no token continues an expression at the levels of the prefix forms and of `lambda` -/
theorem Ev_exit_of_level {k : Nat} (hk : k = 1 ∨ k = 5 ∨ k = 13) {acc : PyAst} {ts : List PTok} :
    Ev (fun m => cont m k acc ts) (acc, ts) :=
  Ev_exit (fun t _ hc => by have := contLevel_range hc; omega)

theorem Ev_left {k : Nat} {acc b : PyAst} {o : BinOp} {ts' r : List PTok} {out : PyAst × List PTok}
    (hl : isLeft k = true) (ho : pyLevel o = k) (h1 : Ev (fun m => parse m (k + 1) ts') (b, r))
    (h2 : Ev (fun m => cont m k (.bin o acc b) r) out) : Ev (fun m => cont m k acc (.bop o :: ts')) out :=
  h1.step (fun m e => by
    have hk := isLeft_cases hl
    have h14 : ¬ k = 14 := by omega
    simp [cont, ho, h14, hk.2.2.2, hl, e]) h2

/-- a power: the right operand is a `factor`, and the level does not loop -/
theorem Ev_pow {acc b : PyAst} {o : BinOp} {ts' r : List PTok} (ho : pyLevel o = 14)
    (h1 : Ev (fun m => parse m 13 ts') (b, r)) : Ev (fun m => cont m 14 acc (.bop o :: ts')) (.bin o acc b, r) :=
  h1.step (fun m e => by simp [cont, ho, e]) (.pure _)

theorem chainMore_exit (n : Nat) (acc : PyAst) (ts : List PTok) (h : Stop 6 ts) :
    chainMore (n + 1) acc ts = some (acc, ts) := by
  unfold chainMore
  split
  · rename_i o ts'
    have : ¬ pyLevel o = 6 := fun e => Nat.lt_irrefl _ (h (.bop o) rfl 6 (by rw [contLevel, e]))
    simp [this]
  · rfl

/-- a comparison: the right operand is a `bitwise_or`; a further comparison operator would make a chain -/
theorem Ev_cmp {acc b : PyAst} {o : BinOp} {ts' r : List PTok} (ho : pyLevel o = 6)
    (h1 : Ev (fun m => parse m 7 ts') (b, r)) (hs : Stop 6 r) :
    Ev (fun m => cont m 6 acc (.bop o :: ts')) (.bin o acc b, r) :=
  h1.step (G := fun m => chainMore m (.bin o acc b) r) (fun m e => by simp [cont, ho, e])
    (.of_succ (fun m => chainMore_exit m _ r hs) (.pure _))

/-- climbing down from level `p` to a lower level `k` when nothing continues in between -/
theorem Ev_descend {k p : Nat} {ts r : List PTok} {a : PyAst} {out : PyAst × List PTok} (hkp : k < p)
    (hp : p ≤ 15) (hnp : ∀ j, k ≤ j → j < p → NoPrefixAt j ts) (h1 : Ev (fun m => parse m p ts) (a, r))
    (hs : Stop (k + 1) r) (h2 : Ev (fun m => cont m k a r) out) : Ev (fun m => parse m k ts) out := by
  induction hkp with
  | refl => exact Ev_down (by omega) (hnp k (Nat.le_refl _) (Nat.lt_succ_self _)) h1 h2
  | @step p hkp ih =>
    have hkp : k < p := hkp
    exact ih (by omega) (fun j hj1 hj2 => hnp j hj1 (by omega))
      (Ev_down (by omega) (hnp p (by omega) (Nat.lt_succ_self _)) h1
        (Ev_exit (fun t ht hc => by have := hs t ht p hc; omega)))

end MV
