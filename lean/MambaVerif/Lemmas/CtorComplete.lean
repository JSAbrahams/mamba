/-
The constructor analysis rejects nothing without reason: every attribute the analysis still calls
unassigned is left unassigned on some path (`path*`), and every error it reports is reached by a path
that returns with an attribute unassigned (`fail*`).

A path through a part of a statement is a path through the statement after the choice that selects the
part: `runS (.ite t e) (0 :: cs) a` computes to `runB t cs a`, and so on, which is why a witness for the
part is accepted as it stands as a witness for the whole.  Which arm of a match / handle a choice selects
depends on neither the stream nor the start (`Selects`); `pathA`, `failA` say what `pathArm`, `failArm` say
in terms of `runA` alone.
-/
import MambaVerif.Lemmas.CtorAssign

namespace MV

mutual
/-- no bare `return` anywhere in the statement -/
def retFreeS : CS → Bool
  | .assign _ => true
  | .skip => true
  | .ite t e => retFreeB t && retFreeB e
  | .ifOnly t => retFreeB t
  | .loop b => retFreeB b
  | .matchS arms _ => retFreeA arms
  | .handle arms => retFreeA arms
  | .ret => false
def retFreeB : List CS → Bool
  | [] => true
  | s :: ss => retFreeS s && retFreeB ss
def retFreeA : List (List CS) → Bool
  | [] => true
  | a :: more => retFreeB a && retFreeA more
end

/-- a path (the choices `p`) through a statement on which `x` is not assigned to: for every rest of the
    choice stream and every start, the statement completes normally, consumes exactly `p`, and leaves
    `x` unassigned if it was -/
def Skips (run : List Nat → List Nat → Res) (x : Nat) (p : List Nat) : Prop :=
  ∀ (tl a : List Nat), (run (p ++ tl) a).1 = false ∧ (run (p ++ tl) a).2.2 = tl ∧
    (x ∉ a → x ∉ (run (p ++ tl) a).2.1)

/-- a path on which the constructor RETURNS while `x` is unassigned -/
def Returns (run : List Nat → List Nat → Res) (x : Nat) (p : List Nat) : Prop :=
  ∀ (tl a : List Nat), x ∉ a → (run (p ++ tl) a).1 = true ∧ x ∉ (run (p ++ tl) a).2.1

/-- the choice `n` among `arms` runs the arm `b`, whatever the stream and the start -/
def Selects (arms : List (List CS)) (n : Nat) (b : List CS) : Prop :=
  ∀ cs a, runA arms n cs a = some (runB b cs a)

section
variable {run r1 r2 : List Nat → List Nat → Res} {x n : Nat} {p p1 p2 : List Nat}
  {arms more : List (List CS)} {y b : List CS}

theorem Selects.zero : Selects (y :: more) 0 y := by
  intro cs a; cases more <;> rfl

theorem Selects.succ (y : List CS) (h : Selects more n b) : Selects (y :: more) (n + 1) b := by
  intro cs a
  cases more with
  | nil => cases h cs a
  | cons z more => exact h cs a

/- Paths in sequence: `h` is `runB_cons` or `iter_succ`. -/

theorem Skips.andThen (h : ∀ cs a, run cs a = (r1 cs a).andThen r2) (h1 : Skips r1 x p1) (h2 : Skips r2 x p2) :
    Skips run x (p1 ++ p2) := by
  intro tl a
  obtain ⟨g1, g2, g3⟩ := h1 (p2 ++ tl) a
  obtain ⟨k1, k2, k3⟩ := h2 tl (r1 (p1 ++ (p2 ++ tl)) a).2.1
  rw [h, List.append_assoc, Res.andThen_of_normal r2 g1, g2]
  exact ⟨k1, k2, fun hxa => k3 (g3 hxa)⟩

theorem Skips.andThen_returns (h : ∀ cs a, run cs a = (r1 cs a).andThen r2) (h1 : Skips r1 x p1)
    (h2 : Returns r2 x p2) : Returns run x (p1 ++ p2) := by
  intro tl a hxa
  obtain ⟨g1, g2, g3⟩ := h1 (p2 ++ tl) a
  rw [h, List.append_assoc, Res.andThen_of_normal r2 g1, g2]
  exact h2 tl _ (g3 hxa)

theorem Returns.andThen (h : ∀ cs a, run cs a = (r1 cs a).andThen r2) (h1 : Returns r1 x p) :
    Returns run x p := by
  intro tl a hxa
  rw [h, Res.andThen_of_ret r2 (h1 tl a hxa).1]
  exact h1 tl a hxa

/- A path through an arm is one through the statement, after the choice `c` that selects the arm. -/
theorem Skips.of_arm (hsel : Selects arms n b) (c : Nat)
    (h : ∀ cs a, run (c :: cs) a = (runA arms n cs a).getD (false, a, cs)) (hp : Skips (runB b) x p) :
    Skips run x (c :: p) := by
  intro tl a
  rw [List.cons_append, h, hsel]
  exact hp tl a

theorem Returns.of_arm (hsel : Selects arms n b) (c : Nat)
    (h : ∀ cs a, run (c :: cs) a = (runA arms n cs a).getD (false, a, cs)) (hp : Returns (runB b) x p) :
    Returns run x (c :: p) := by
  intro tl a
  rw [List.cons_append, h, hsel]
  exact hp tl a

end

mutual
theorem pathS : ∀ (s : CS) (u u' : List Nat) (x : Nat), uaS s u = some u' → x ∈ u' →
    ∃ p, Skips (runS s) x p
  | .assign f, u, u', x, h, hx => by
    cases h
    have hne : x ≠ f := by simpa using (List.mem_filter.mp hx).2
    exact ⟨[], fun tl a => ⟨rfl, rfl, fun hxa hmem => (List.mem_cons.mp hmem).elim hne hxa⟩⟩
  | .skip, u, u', x, _, _ => ⟨[], fun _ _ => ⟨rfl, rfl, id⟩⟩
  | .ite t e, u, u', x, h, hx => by
    simp only [uaS_ite, Option.bind_eq_some_iff, Option.map_eq_some_iff] at h
    obtain ⟨p, ht, q, he, rfl⟩ := h
    rcases List.mem_append.mp hx with hx | hx
    · exact (pathB t u p x ht hx).imp' (0 :: ·) fun _ hp => hp
    · exact (pathB e u q x he hx).imp' (1 :: ·) fun _ hp => hp
  -- the choice 0 passes over these
  | .ifOnly _, _, _, x, _, _ | .loop _, _, _, x, _, _ | .handle _, _, _, x, _, _
  | .matchS _ false, _, _, x, _, _ | .matchS [] true, _, _, x, _, _ => ⟨[0], fun _ _ => ⟨rfl, rfl, id⟩⟩
  | .matchS (y :: more) true, u, u', x, h, hx => by
    obtain ⟨i, b, hsel, p, hp⟩ := pathArm (y :: more) u u' x (uaS_matchS_true ▸ h) hx
    exact ⟨i :: p, hp.of_arm hsel i fun _ _ => rfl⟩
  | .ret, u, u', x, h, hx => by
    obtain ⟨rfl, rfl⟩ := uaS_ret.mp h
    cases hx
theorem pathB : ∀ (b : List CS) (u u' : List Nat) (x : Nat), uaB b u = some u' → x ∈ u' →
    ∃ p, Skips (runB b) x p
  | [], u, u', x, _, _ => ⟨[], fun _ _ => ⟨rfl, rfl, id⟩⟩
  | s :: ss, u, u', x, h, hx => by
    simp only [uaB_cons, Option.bind_eq_some_iff] at h
    obtain ⟨u1, hs, h⟩ := h
    obtain ⟨p1, hp1⟩ := pathS s u u1 x hs (uaB_sub ss u1 u' h x hx)
    obtain ⟨p2, hp2⟩ := pathB ss u1 u' x h hx
    exact ⟨p1 ++ p2, .andThen (fun _ _ => runB_cons) hp1 hp2⟩
theorem pathArm : ∀ (arms : List (List CS)) (u q : List Nat) (x : Nat), uaA arms u = some q →
    x ∈ q → ∃ i b, Selects arms i b ∧ ∃ p, Skips (runB b) x p
  | [], u, q, x, h, hx => by
    cases h; cases hx
  | y :: more, u, q, x, h, hx => by
    simp only [uaA_cons, Option.bind_eq_some_iff, Option.map_eq_some_iff] at h
    obtain ⟨p0, hy, q1, hm, rfl⟩ := h
    rcases List.mem_append.mp hx with hx | hx
    · exact ⟨0, y, .zero, pathB y u p0 x hy hx⟩
    · obtain ⟨i, b, hsel, hp⟩ := pathArm more u q1 x hm hx
      exact ⟨i + 1, b, hsel.succ y, hp⟩
end

theorem pathA : ∀ (arms : List (List CS)) (u q : List Nat) (x : Nat), uaA arms u = some q →
    x ∈ q → ∃ i p, ∀ (tl a : List Nat), ∃ r, runA arms i (p ++ tl) a = some r ∧ r.1 = false ∧ r.2.2 = tl ∧
      (x ∉ a → x ∉ r.2.1) :=
  fun arms u q x h hx =>
    let ⟨i, _, hsel, p, hp⟩ := pathArm arms u q x h hx
    ⟨i, p, fun tl a => ⟨_, hsel _ _, hp tl a⟩⟩

mutual
/-- an error of the analysis ("not assigned to before return") is justified by a path that reaches a
    `return` with an attribute unassigned -/
theorem failS : ∀ (s : CS) (u : List Nat), uaS s u = none → ∃ x ∈ u, ∃ p, Returns (runS s) x p
  | .assign f, u, h => nomatch h
  | .skip, u, h => nomatch h
  | .ite t e, u, h => by
    simp only [uaS_ite, Option.bind_eq_none_iff, Option.map_eq_none_iff] at h
    cases ht : uaB t u with
    | none =>
      obtain ⟨x, hx, p, hp⟩ := failB t u ht
      exact ⟨x, hx, 0 :: p, hp⟩
    | some q =>
      obtain ⟨x, hx, p, hp⟩ := failB e u (h q ht)
      exact ⟨x, hx, 1 :: p, hp⟩
  | .ifOnly t, u, h => by
    simp only [uaS_ifOnly, Option.map_eq_none_iff] at h
    obtain ⟨x, hx, p, hp⟩ := failB t u h
    exact ⟨x, hx, 1 :: p, hp⟩
  | .loop b, u, h => by
    simp only [uaS_loop, Option.map_eq_none_iff] at h
    obtain ⟨x, hx, p, hp⟩ := failB b u h
    -- one iteration
    exact ⟨x, hx, 1 :: p, fun tl a => Returns.andThen (fun _ _ => iter_succ) hp tl a⟩
  | .matchS [] true, u, h => nomatch h
  | .matchS (y :: more) true, u, h => by
    obtain ⟨x, hx, i, b, hsel, p, hp⟩ := failArm (y :: more) u (uaS_matchS_true ▸ h)
    exact ⟨x, hx, i :: p, hp.of_arm hsel i fun _ _ => rfl⟩
  | .matchS arms false, u, h | .handle arms, u, h => by
    simp only [uaS_matchS_false, uaS_handle, Option.map_eq_none_iff] at h
    obtain ⟨x, hx, i, b, hsel, p, hp⟩ := failArm arms u h
    exact ⟨x, hx, (i + 1) :: p, hp.of_arm hsel (i + 1) fun _ _ => rfl⟩
  | .ret, u, h => by
    cases u with
    | nil => cases h
    | cons x rest => exact ⟨x, List.mem_cons_self, [], fun _ _ hxa => ⟨rfl, hxa⟩⟩
theorem failB : ∀ (b : List CS) (u : List Nat), uaB b u = none → ∃ x ∈ u, ∃ p, Returns (runB b) x p
  | [], u, h => nomatch h
  | s :: ss, u, h => by
    simp only [uaB_cons, Option.bind_eq_none_iff] at h
    cases hs : uaS s u with
    | none =>
      obtain ⟨x, hx, p, hp⟩ := failS s u hs
      exact ⟨x, hx, p, .andThen (fun _ _ => runB_cons) hp⟩
    | some u1 =>
      obtain ⟨x, hx1, p2, hp2⟩ := failB ss u1 (h u1 hs)
      obtain ⟨p1, hp1⟩ := pathS s u u1 x hs hx1
      exact ⟨x, uaS_sub s u u1 hs x hx1, p1 ++ p2, hp1.andThen_returns (fun _ _ => runB_cons) hp2⟩
theorem failArm : ∀ (arms : List (List CS)) (u : List Nat), uaA arms u = none →
    ∃ x ∈ u, ∃ i b, Selects arms i b ∧ ∃ p, Returns (runB b) x p
  | [], u, h => nomatch h
  | y :: more, u, h => by
    simp only [uaA_cons, Option.bind_eq_none_iff, Option.map_eq_none_iff] at h
    cases hy : uaB y u with
    | none =>
      obtain ⟨x, hx, hp⟩ := failB y u hy
      exact ⟨x, hx, 0, y, .zero, hp⟩
    | some p0 =>
      obtain ⟨x, hx, i, b, hsel, hp⟩ := failArm more u (h p0 hy)
      exact ⟨x, hx, i + 1, b, hsel.succ y, hp⟩
end

theorem failA : ∀ (arms : List (List CS)) (u : List Nat), uaA arms u = none →
    ∃ x ∈ u, ∃ i p, ∀ (tl a : List Nat), x ∉ a → ∃ r, runA arms i (p ++ tl) a = some r ∧ r.1 = true ∧ x ∉ r.2.1 :=
  fun arms u h =>
    let ⟨x, hx, i, _, hsel, p, hp⟩ := failArm arms u h
    ⟨x, hx, i, p, fun tl a hxa => ⟨_, hsel _ _, hp tl a hxa⟩⟩

mutual
/-- without `return` the analysis never reports an error -/
theorem uaS_some : ∀ (s : CS) (u : List Nat), retFreeS s = true → ∃ u', uaS s u = some u'
  | .assign f, u, _ => ⟨_, rfl⟩
  | .skip, u, _ => ⟨_, rfl⟩
  | .ite t e, u, h => by
    obtain ⟨ht, he⟩ := Bool.and_eq_true_iff.mp h
    obtain ⟨p, ht⟩ := uaB_some t u ht
    obtain ⟨q, he⟩ := uaB_some e u he
    exact ⟨p ++ q, by rw [uaS_ite, ht, he]; rfl⟩
  | .ifOnly t, u, h | .loop t, u, h => by
    obtain ⟨p, ht⟩ := uaB_some t u h
    exact ⟨u, by simp only [uaS_ifOnly, uaS_loop, ht, Option.map_some]⟩
  | .matchS [] true, u, _ => ⟨u, rfl⟩
  | .matchS (y :: more) true, u, h => uaS_matchS_true ▸ uaA_some (y :: more) u h
  | .matchS arms false, u, h => by
    obtain ⟨q, ha⟩ := uaA_some arms u h
    exact ⟨q ++ u, by rw [uaS_matchS_false, ha]; rfl⟩
  | .handle arms, u, h => by
    obtain ⟨q, ha⟩ := uaA_some arms u h
    exact ⟨u, by rw [uaS_handle, ha]; rfl⟩
  | .ret, u, h => nomatch h
theorem uaB_some : ∀ (b : List CS) (u : List Nat), retFreeB b = true → ∃ u', uaB b u = some u'
  | [], u, _ => ⟨u, rfl⟩
  | s :: ss, u, h => by
    obtain ⟨h1, h2⟩ := Bool.and_eq_true_iff.mp h
    obtain ⟨u1, h1⟩ := uaS_some s u h1
    obtain ⟨u2, h2⟩ := uaB_some ss u1 h2
    exact ⟨u2, by rw [uaB_cons, h1]; exact h2⟩
theorem uaA_some : ∀ (arms : List (List CS)) (u : List Nat), retFreeA arms = true → ∃ q, uaA arms u = some q
  | [], u, _ => ⟨[], rfl⟩
  | y :: more, u, h => by
    obtain ⟨hy, hm⟩ := Bool.and_eq_true_iff.mp h
    obtain ⟨p, hy⟩ := uaB_some y u hy
    obtain ⟨q, hm⟩ := uaA_some more u hm
    exact ⟨p ++ q, by rw [uaA_cons, hy, hm]; rfl⟩
end

end MV
