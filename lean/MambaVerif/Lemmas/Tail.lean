/-
The tail transformations change exactly the statements in tail position, on every path.

Each fact is proved for trees, for the cases of a match (`…All`) and for the body of a block (`…Last`)
at once, by the induction principle Lean derives from the recursion of `appendAssign` / `appendRet`
(one case per constructor of `TS`, and `[]`, `[s]`, `s :: s' :: ss` for a block); every case is closed
by unfolding both sides and rewriting with the induction hypotheses.
-/
import MambaVerif.Model.Tail

namespace MV

/-- what `append_assign` does to one tail statement -/
def wrapA (x : Nat) : TS → TS
  | .expr e => .assign x e
  | .retAssign y e => .assign x (y + e)
  | s => s

/-- what `append_ret` does to one tail statement -/
def wrapR : TS → TS
  | .expr e => .ret e
  | .assign y e => .retAssign y e
  | .block [] => retNone
  | s => s

/-- a tail statement is never itself a tree (leaves are leaves) -/
def TS.isLeaf : TS → Bool
  | .expr _ | .ret _ | .raise _ | .assign _ _ | .retAssign _ _ | .block [] => true
  | _ => false

theorem leavesLast_cons (s : TS) {ss : List TS} (h : ss ≠ []) : leavesLast (s :: ss) = leavesLast ss := by
  cases ss with
  | nil => exact absurd rfl h
  | cons s' ss => rw [leavesLast]

theorem appendAssignLast_ne_nil (x : Nat) (s : TS) (ss : List TS) : appendAssignLast x (s :: ss) ≠ [] := by
  cases ss <;> simp [appendAssignLast]

theorem appendRetLast_ne_nil (s : TS) (ss : List TS) : appendRetLast (s :: ss) ≠ [] := by
  cases ss <;> simp [appendRetLast]

theorem leaves_appendAssign_all (x : Nat) :
    (∀ s, leaves (appendAssign x s) = (leaves s).map (wrapA x)) ∧
    (∀ ss, leavesAll (appendAssignAll x ss) = (leavesAll ss).map (wrapA x)) ∧
    (∀ ss, leavesLast (appendAssignLast x ss) = (leavesLast ss).map (wrapA x)) := by
  apply appendAssign.mutual_induct <;> intros <;>
    simp only [appendAssign, appendAssignAll, appendAssignLast, leaves, leavesAll, leavesLast, wrapA,
      List.map_append, List.map_cons, List.map_nil, leavesLast_cons _ (appendAssignLast_ne_nil _ _ _), *]

theorem leaves_appendAssign (x : Nat) (s : TS) : leaves (appendAssign x s) = (leaves s).map (wrapA x) :=
  (leaves_appendAssign_all x).1 s

theorem leavesAll_appendAssign (x : Nat) : (ss : List TS) →
    leavesAll (appendAssignAll x ss) = (leavesAll ss).map (wrapA x) :=
  (leaves_appendAssign_all x).2.1

theorem leavesLast_appendAssign (x : Nat) : (ss : List TS) →
    leavesLast (appendAssignLast x ss) = (leavesLast ss).map (wrapA x) :=
  (leaves_appendAssign_all x).2.2

theorem leaves_appendRet_all :
    (∀ s, leaves (appendRet s) = (leaves s).map wrapR) ∧
    (∀ ss, leavesAll (appendRetAll ss) = (leavesAll ss).map wrapR) ∧
    (∀ ss, leavesLast (appendRetLast ss) = (leavesLast ss).map wrapR) := by
  apply appendRet.mutual_induct <;> intros <;>
    simp only [appendRet, appendRetAll, appendRetLast, leaves, leavesAll, leavesLast, wrapR, retNone,
      List.map_append, List.map_cons, List.map_nil, leavesLast_cons _ (appendRetLast_ne_nil _ _), *]

theorem leaves_appendRet (s : TS) : leaves (appendRet s) = (leaves s).map wrapR :=
  leaves_appendRet_all.1 s

theorem leavesAll_appendRet : (ss : List TS) → leavesAll (appendRetAll ss) = (leavesAll ss).map wrapR :=
  leaves_appendRet_all.2.1

theorem leavesLast_appendRet : (ss : List TS) → leavesLast (appendRetLast ss) = (leavesLast ss).map wrapR :=
  leaves_appendRet_all.2.2

theorem all_isLeaf_leaves :
    (∀ s, (leaves s).all TS.isLeaf = true) ∧ (∀ ss, (leavesAll ss).all TS.isLeaf = true) ∧
    (∀ ss, (leavesLast ss).all TS.isLeaf = true) := by
  -- `appendRet`'s principle, for its one case per constructor: that of `leaves` has a single case for the
  -- five atomic statements, which `TS.isLeaf` tells apart
  apply appendRet.mutual_induct <;> intros <;>
    simp only [leaves, leavesAll, leavesLast, TS.isLeaf, List.all_append, List.all_cons, List.all_nil,
      Bool.and_self, *]

theorem leaves_are_leaves (s : TS) : ∀ l ∈ leaves s, l.isLeaf = true :=
  List.all_eq_true.mp (all_isLeaf_leaves.1 s)

theorem leavesAll_are_leaves : (ss : List TS) → ∀ l ∈ leavesAll ss, l.isLeaf = true :=
  fun ss => List.all_eq_true.mp (all_isLeaf_leaves.2.1 ss)

theorem leavesLast_are_leaves : (ss : List TS) → ∀ l ∈ leavesLast ss, l.isLeaf = true :=
  fun ss => List.all_eq_true.mp (all_isLeaf_leaves.2.2 ss)

/-- case analysis on a tail statement: the five atomic statements and the empty block -/
@[elab_as_elim]
theorem TS.leaf_cases {P : TS → Prop} (expr : ∀ e, P (.expr e)) (ret : ∀ e, P (.ret e))
    (raise : ∀ e, P (.raise e)) (assign : ∀ x e, P (.assign x e)) (retAssign : ∀ x e, P (.retAssign x e))
    (empty : P (.block [])) : ∀ l : TS, l.isLeaf = true → P l
  | .expr e, _ => expr e
  | .ret e, _ => ret e
  | .raise e, _ => raise e
  | .assign x e, _ => assign x e
  | .retAssign x e, _ => retAssign x e
  | .block [], _ => empty

end MV
