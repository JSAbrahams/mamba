/-
One call of `into_tokens` (`step`) and the main loop (`run`): what a successful step is, how the loop
unfolds on a token, a space and on particular characters, and the invariants of the loop.
-/
import MambaVerif.Lemmas.LexBasic

namespace MV

/-- a successful step emits a token or skips a space -/
theorem step_ok {nested : List Char → LexRes (List Lex)} {c : Char} {rest : List Char}
    {st st' : LState} {toks : List Lex} {n : Nat} (h : step nested c rest st = .ok (toks, st', n)) :
    (∃ t nest, classify nested st.pos c rest = .tok t nest n ∧ st.token t nest = (toks, st')) ∨
      (classify nested st.pos c rest = .space ∧ toks = [] ∧ st' = st.space ∧ n = 0) := by
  unfold step at h
  split at h <;> cases h
  · exact .inl ⟨_, _, ‹_›, rfl⟩
  · exact .inr ⟨‹_›, rfl, rfl, rfl⟩

/-- how `run` joins the tokens of one step with the result of the rest -/
def prepend (toks : List Lex) (r : LexRes (List Lex × LState)) : LexRes (List Lex × LState) :=
  match r with
  | .err p => .err p
  | .panic n => .panic n
  | .ok (more, st) => .ok (toks ++ more, st)

theorem prepend_nil (r : LexRes (List Lex × LState)) : prepend [] r = r := by
  cases r <;> rfl

theorem run_cons_tok {nested : List Char → LexRes (List Lex)} {c : Char} {rest : List Char} {st : LState}
    {t : Tok} {nest : List (List Lex)} {n : Nat} (h : classify nested st.pos c rest = .tok t nest n) :
    run nested (c :: rest) 0 st = prepend (st.token t nest).1 (run nested rest n (st.token t nest).2) := by
  simp only [run, step, h, prepend]
  cases run nested rest n (st.token t nest).2 <;> rfl

theorem run_cons_space {nested : List Char → LexRes (List Lex)} {c : Char} {rest : List Char} {st : LState}
    (h : classify nested st.pos c rest = .space) :
    run nested (c :: rest) 0 st = run nested rest 0 st.space := by
  simp only [run, step, h]
  cases run nested rest 0 st.space <;> rfl

theorem run_nl (nested : List Char → LexRes (List Lex)) (r : List Char) (st : LState) :
    run nested ('\n' :: r) 0 st = run nested r 0 st.newline := by
  rw [run_cons_tok (classify_nl nested st.pos r), LState.token_nl rfl]; exact prepend_nil _

theorem run_sp (nested : List Char → LexRes (List Lex)) (r : List Char) (st : LState) :
    run nested (' ' :: r) 0 st = run nested r 0 st.space :=
  run_cons_space (classify_space nested st.pos r)

theorem run_skip (nested : List Char → LexRes (List Lex)) (a b : List Char) (st : LState) :
    run nested (a ++ b) a.length st = run nested b 0 st := by
  induction a with
  | nil => rfl
  | cons x xs ih => simp only [List.cons_append, List.length_cons, run]; exact ih

theorem step_inv {nested : List Char → LexRes (List Lex)} {c : Char} {rest : List Char}
    {st st' : LState} {toks : List Lex} {n : Nat}
    (h : step nested c rest st = .ok (toks, st', n)) (hn : AllNL st.newlines) :
    bal (LState.level st.curIndent) toks = some (LState.level st'.curIndent)
    ∧ AllNL st'.newlines ∧ NoEof toks := by
  rcases step_ok h with ⟨t, nest, hc, ht⟩ | ⟨-, rfl, rfl, -⟩
  · have := token_inv st t nest (classify_good hc) hn
    rwa [ht] at this
  · exact ⟨rfl, hn, fun _ hl => nomatch hl⟩

theorem run_inv (nested : List Char → LexRes (List Lex)) (cs : List Char) (skip : Nat) (st : LState)
    {toks : List Lex} {st' : LState} (h : run nested cs skip st = .ok (toks, st')) (hn : AllNL st.newlines) :
    bal (LState.level st.curIndent) toks = some (LState.level st'.curIndent)
    ∧ AllNL st'.newlines ∧ NoEof toks := by
  fun_induction run nested cs skip st generalizing toks st' with
  | case1 => cases h; exact ⟨rfl, hn, fun _ hl => nomatch hl⟩
  | case2 _ _ _ _ ih => exact ih h hn
  | case3 | case4 | case5 | case6 => cases h
  | case7 _ _ _ _ _ _ hs _ _ hr ih =>
    cases h
    obtain ⟨b1, n1, e1⟩ := step_inv hs hn
    obtain ⟨b2, n2, e2⟩ := ih hr n1
    exact ⟨by rw [bal_append, b1]; exact b2, n2, fun l hl => (List.mem_append.mp hl).elim (e1 l) (e2 l)⟩

end MV
