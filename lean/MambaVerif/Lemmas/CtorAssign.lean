/-
Soundness of the constructor analysis: on every path, what the analysis calls assigned is assigned.

The first part gives `uaS`/`uaB`/`uaA` and `runS`/`runB`/`runA` their equations: the inductions here and in
`CtorComplete` rewrite with these (and with `Option.bind_eq_some_iff` and the like) instead of unfolding.
Sequencing (`runB` on `s :: ss`, `iter` on `k + 1`) is `Res.andThen` in both.
-/
import MambaVerif.Model.CtorAssign

namespace MV

section
variable {t e b y : List CS} {s : CS} {ss : List CS} {arms more : List (List CS)}
  {F u u' cs a : List Nat} {n : Nat} {r : Res} {k : List Nat → List Nat → Res}

/- The analysis: one equation per compound form (the other forms unfold by `rfl`). -/

theorem uaS_ite : uaS (.ite t e) u = (uaB t u).bind fun p => (uaB e u).map (p ++ ·) := by
  unfold uaS; cases uaB t u <;> cases uaB e u <;> rfl

theorem uaS_ifOnly : uaS (.ifOnly t) u = (uaB t u).map fun _ => u := by
  unfold uaS; cases uaB t u <;> rfl

theorem uaS_loop : uaS (.loop b) u = (uaB b u).map fun _ => u := by
  unfold uaS; cases uaB b u <;> rfl

theorem uaS_matchS_true : uaS (.matchS (y :: more) true) u = uaA (y :: more) u := by
  unfold uaS; cases uaA (y :: more) u <;> rfl

theorem uaS_matchS_false : uaS (.matchS arms false) u = (uaA arms u).map (· ++ u) := by
  cases arms with
  | nil => rfl
  | cons y more => unfold uaS; cases uaA (y :: more) u <;> rfl

theorem uaS_handle : uaS (.handle arms) u = (uaA arms u).map fun _ => u := by
  unfold uaS; cases uaA arms u <;> rfl

theorem uaS_ret : uaS .ret u = some u' ↔ u = [] ∧ u' = [] := by
  unfold uaS; cases u <;> simp [eq_comm]

theorem uaB_cons : uaB (s :: ss) u = (uaS s u).bind (uaB ss) := by
  unfold uaB; cases uaS s u <;> rfl

theorem uaA_cons : uaA (y :: more) u = (uaB y u).bind fun p => (uaA more u).map (p ++ ·) := by
  rw [uaA]; cases uaB y u <;> cases uaA more u <;> rfl

theorem ctorAccepts_eq_true {fields : List Nat} {body : List CS} :
    ctorAccepts fields body = true ↔ uaB body fields = some [] := by
  unfold ctorAccepts; cases uaB body fields <;> simp

/-- what follows a statement runs only if the statement has not returned -/
def Res.andThen (r : Res) (k : List Nat → List Nat → Res) : Res :=
  match r with
  | (true, a, cs) => (true, a, cs)
  | (false, a, cs) => k cs a

theorem Res.andThen_of_normal (k : List Nat → List Nat → Res) (h : r.1 = false) :
    r.andThen k = k r.2.2 r.2.1 := by
  obtain ⟨_, _, _⟩ := r; cases h; rfl

theorem Res.andThen_of_ret (k : List Nat → List Nat → Res) (h : r.1 = true) : r.andThen k = r := by
  obtain ⟨_, _, _⟩ := r; cases h; rfl

theorem runB_cons : runB (s :: ss) cs a = (runS s cs a).andThen (runB ss) := rfl

theorem iter_succ : iter (n + 1) k cs a = (k cs a).andThen (iter n k) := rfl

/- A compound statement takes the choice `cs.headD 0` from the stream (an exhausted stream reads as 0)
   and goes on with `cs.tail`.  On a stream `c :: cs` all of these hold by `rfl`. -/
theorem runS_ite : runS (.ite t e) cs a = if cs.headD 0 = 0 then runB t cs.tail a else runB e cs.tail a := by
  cases cs <;> rfl

theorem runS_ifOnly :
    runS (.ifOnly t) cs a = if cs.headD 0 = 0 then (false, a, cs.tail) else runB t cs.tail a := by
  cases cs <;> rfl

theorem runS_loop : runS (.loop b) cs a = iter (cs.headD 0) (runB b) cs.tail a := by
  cases cs <;> rfl

theorem runS_matchS_nil : runS (.matchS [] true) cs a = (false, a, cs.tail) := by
  cases cs <;> rfl

theorem runS_matchS_true :
    runS (.matchS arms true) cs a = (runA arms (cs.headD 0) cs.tail a).getD (false, a, cs.tail) := by
  cases cs <;> rfl

theorem runS_handle :
    runS (.handle arms) cs a = match cs.headD 0 with
      | 0 => (false, a, cs.tail)
      | c + 1 => (runA arms c cs.tail a).getD (false, a, cs.tail) := by
  cases cs <;> rfl

theorem runS_matchS_false : runS (.matchS arms false) cs a = runS (.handle arms) cs a := by
  cases cs <;> rfl

theorem runA_cons_some (h : runA (y :: more) n cs a = some r) :
    r = runB y cs a ∨ ∃ m, runA more m cs a = some r := by
  cases more with
  | nil => exact Or.inl (Option.some.inj h).symm
  | cons z more =>
    cases n with
    | zero => exact Or.inl (Option.some.inj h).symm
    | succ n => exact Or.inr ⟨n, h⟩

theorem runA_cons_exists (y : List CS) (more : List (List CS)) (n : Nat) (cs a : List Nat) :
    ∃ r, runA (y :: more) n cs a = some r := by
  induction more generalizing y n with
  | nil => exact ⟨_, rfl⟩
  | cons z more ih =>
    cases n with
    | zero => exact ⟨_, rfl⟩
    | succ n => exact ih z n

/-- every attribute of `F` is assigned (`A`) or still recorded as unassigned (`U`) -/
def Cov (F A U : List Nat) : Prop := ∀ f ∈ F, f ∈ A ∨ f ∈ U

/-- after a statement: on normal completion the invariant holds for the new sets; when the
    constructor has returned, every attribute is assigned -/
def Post (F U' : List Nat) (r : Res) : Prop :=
  (r.1 = false → Cov F r.2.1 U') ∧ (r.1 = true → ∀ f ∈ F, f ∈ r.2.1)

theorem Cov.weaken (h : Cov F a u) (hs : ∀ x ∈ u, x ∈ u') : Cov F a u' :=
  fun f hf => (h f hf).imp_right (hs f)

theorem Post.weaken (h : Post F u r) (hs : ∀ x ∈ u, x ∈ u') : Post F u' r :=
  ⟨fun hr => (h.1 hr).weaken hs, h.2⟩

theorem Post.normal (h : Cov F a u) (cs : List Nat) : Post F u (false, a, cs) :=
  ⟨fun _ => h, nofun⟩

theorem Post.andThen (h : Post F u r) (hk : ∀ cs a, Cov F a u → Post F u' (k cs a)) :
    Post F u' (r.andThen k) := by
  obtain ⟨ret, a, cs⟩ := r
  cases ret with
  | true => exact ⟨nofun, fun _ => h.2 rfl⟩
  | false => exact hk cs a (h.1 rfl)

end

mutual
theorem uaS_sub : ∀ (s : CS) (u u' : List Nat), uaS s u = some u' → ∀ x ∈ u', x ∈ u
  | .assign f, u, u', h => by
    cases h; exact fun x hx => (List.mem_filter.mp hx).1
  | .skip, u, u', h | .matchS [] true, u, u', h => by
    cases h; exact fun x hx => hx
  | .ite t e, u, u', h => by
    simp only [uaS_ite, Option.bind_eq_some_iff, Option.map_eq_some_iff] at h
    obtain ⟨p, ht, q, he, rfl⟩ := h
    exact fun x hx => (List.mem_append.mp hx).elim (uaB_sub t u p ht x) (uaB_sub e u q he x)
  -- these hand on what they got
  | .ifOnly _, u, u', h | .loop _, u, u', h | .handle _, u, u', h => by
    simp only [uaS_ifOnly, uaS_loop, uaS_handle, Option.map_eq_some_iff] at h
    obtain ⟨_, _, rfl⟩ := h; exact fun x hx => hx
  | .matchS (y :: more) true, u, u', h => uaA_sub (y :: more) u u' (uaS_matchS_true ▸ h)
  | .matchS arms false, u, u', h => by
    simp only [uaS_matchS_false, Option.map_eq_some_iff] at h
    obtain ⟨q, ha, rfl⟩ := h
    exact fun x hx => (List.mem_append.mp hx).elim (uaA_sub arms u q ha x) id
  | .ret, u, u', h => by
    obtain ⟨rfl, rfl⟩ := uaS_ret.mp h; exact fun x hx => hx
theorem uaB_sub : ∀ (b : List CS) (u u' : List Nat), uaB b u = some u' → ∀ x ∈ u', x ∈ u
  | [], u, u', h => by
    cases h; exact fun x hx => hx
  | s :: ss, u, u', h => by
    simp only [uaB_cons, Option.bind_eq_some_iff] at h
    obtain ⟨u1, hs, h⟩ := h
    exact fun x hx => uaS_sub s u u1 hs x (uaB_sub ss u1 u' h x hx)
theorem uaA_sub : ∀ (arms : List (List CS)) (u x : List Nat), uaA arms u = some x → ∀ y ∈ x, y ∈ u
  | [], u, x, h => by
    cases h; exact nofun
  | y :: more, u, x, h => by
    simp only [uaA_cons, Option.bind_eq_some_iff, Option.map_eq_some_iff] at h
    obtain ⟨p, hy, q, hm, rfl⟩ := h
    exact fun z hz => (List.mem_append.mp hz).elim (uaB_sub y u p hy z) (uaA_sub more u q hm z)
end

theorem iter_post (F u ub : List Nat) (body : List Nat → List Nat → Res)
    (hb : ∀ cs a, Cov F a u → Post F ub (body cs a)) (hsub : ∀ x ∈ ub, x ∈ u) :
    ∀ (k : Nat) (cs a : List Nat), Cov F a u → Post F u (iter k body cs a)
  | 0, cs, _, hc => .normal hc cs
  | k + 1, cs, a, hc =>
    (hb cs a hc).andThen fun cs' a' hc' => iter_post F u ub body hb hsub k cs' a' (hc'.weaken hsub)

/-- a `handle`, and a `match` without an arm that matches anything: no arm runs, or one does -/
theorem handle_post {F u a : List Nat} {arms : List (List CS)} (cs : List Nat) (hc : Cov F a u)
    (harm : ∀ n cs r, runA arms n cs a = some r → Post F u r) : Post F u (runS (.handle arms) cs a) := by
  rw [runS_handle]
  split
  next => exact .normal hc _
  next c _ =>
    cases hr : runA arms c cs.tail a with
    | none => exact .normal hc _
    | some r => exact harm c _ r hr

mutual
theorem ctorSoundS (F : List Nat) : ∀ (s : CS) (u u' cs a : List Nat), uaS s u = some u' → Cov F a u →
    Post F u' (runS s cs a)
  | .assign f, u, u', cs, a, h, hc => by
    cases h
    refine .normal (fun g hg => ?_) cs
    by_cases hgf : g = f
    · exact Or.inl (hgf ▸ List.mem_cons_self)
    · exact (hc g hg).imp (List.mem_cons_of_mem f) fun hgu => List.mem_filter.mpr ⟨hgu, by simpa using hgf⟩
  | .skip, u, u', cs, a, h, hc => by
    cases h; exact .normal hc cs
  | .ite t e, u, u', cs, a, h, hc => by
    simp only [uaS_ite, Option.bind_eq_some_iff, Option.map_eq_some_iff] at h
    obtain ⟨p, ht, q, he, rfl⟩ := h
    rw [runS_ite]
    split
    · exact (ctorSoundB F t u p _ a ht hc).weaken fun _ => List.mem_append_left q
    · exact (ctorSoundB F e u q _ a he hc).weaken fun _ => List.mem_append_right p
  | .ifOnly t, u, u', cs, a, h, hc => by
    simp only [uaS_ifOnly, Option.map_eq_some_iff] at h
    obtain ⟨p, ht, rfl⟩ := h
    rw [runS_ifOnly]
    split
    · exact .normal hc _
    · exact (ctorSoundB F t u p _ a ht hc).weaken (uaB_sub t u p ht)
  | .loop b, u, u', cs, a, h, hc => by
    simp only [uaS_loop, Option.map_eq_some_iff] at h
    obtain ⟨p, hb, rfl⟩ := h
    rw [runS_loop]
    exact iter_post F u p (runB b) (fun cs' a' => ctorSoundB F b u p cs' a' hb) (uaB_sub b u p hb) _ _ a hc
  | .matchS [] true, u, u', cs, a, h, hc => by
    cases h; rw [runS_matchS_nil]; exact .normal hc _
  | .matchS (y :: more) true, u, u', cs, a, h, hc => by
    -- with an arm that matches anything, some arm runs
    obtain ⟨r, hr⟩ := runA_cons_exists y more (cs.headD 0) cs.tail a
    rw [runS_matchS_true, hr]
    exact ctorSoundA F (y :: more) u u' (uaS_matchS_true ▸ h) _ _ a hc r hr
  | .matchS arms false, u, u', cs, a, h, hc => by
    simp only [uaS_matchS_false, Option.map_eq_some_iff] at h
    obtain ⟨p, ha, rfl⟩ := h
    rw [runS_matchS_false]
    exact handle_post cs (hc.weaken fun _ => List.mem_append_right p) fun n cs r hr =>
      (ctorSoundA F arms u p ha n cs a hc r hr).weaken fun _ => List.mem_append_left u
  | .handle arms, u, u', cs, a, h, hc => by
    simp only [uaS_handle, Option.map_eq_some_iff] at h
    obtain ⟨p, ha, rfl⟩ := h
    exact handle_post cs hc fun n cs r hr => (ctorSoundA F arms u p ha n cs a hc r hr).weaken (uaA_sub arms u p ha)
  | .ret, u, u', cs, a, h, hc => by
    obtain ⟨rfl, rfl⟩ := uaS_ret.mp h
    exact ⟨nofun, fun _ f hf => (hc f hf).resolve_right List.not_mem_nil⟩
theorem ctorSoundB (F : List Nat) : ∀ (b : List CS) (u u' cs a : List Nat), uaB b u = some u' → Cov F a u →
    Post F u' (runB b cs a)
  | [], u, u', cs, a, h, hc => by
    cases h; exact .normal hc cs
  | s :: ss, u, u', cs, a, h, hc => by
    simp only [uaB_cons, Option.bind_eq_some_iff] at h
    obtain ⟨u1, hs, h⟩ := h
    exact (ctorSoundS F s u u1 cs a hs hc).andThen fun cs' a' => ctorSoundB F ss u1 u' cs' a' h
theorem ctorSoundA (F : List Nat) : ∀ (arms : List (List CS)) (u x : List Nat), uaA arms u = some x →
    ∀ (n : Nat) (cs a : List Nat), Cov F a u → ∀ r, runA arms n cs a = some r → Post F x r
  | [], u, x, _, n, cs, a, _, r, hr => nomatch hr
  | y :: more, u, x, h, n, cs, a, hc, r, hr => by
    simp only [uaA_cons, Option.bind_eq_some_iff, Option.map_eq_some_iff] at h
    obtain ⟨p, hy, q, hm, rfl⟩ := h
    obtain rfl | ⟨m, hr⟩ := runA_cons_some hr
    · exact (ctorSoundB F y u p cs a hy hc).weaken fun _ => List.mem_append_left q
    · exact (ctorSoundA F more u q hm m cs a hc r hr).weaken fun _ => List.mem_append_right p
end

end MV
